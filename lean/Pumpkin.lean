import Pumpkin.Spec.Basic
import Pumpkin.Spec.CumSem
import Pumpkin.Spec.Lists
import Pumpkin.Check.AtomRup
import Pumpkin.Check.Derive
import Pumpkin.Check.DrcpCheck
import Pumpkin.Check.MaxSat
import Pumpkin.Check.Oracle
import Pumpkin.Check.Rup
import Pumpkin.Model.Assignments
import Pumpkin.Model.AssignmentsEval
import Pumpkin.Model.AssignmentsEvents
import Pumpkin.Model.AssignmentsHist
import Pumpkin.Model.AssignmentsRefine
import Pumpkin.Model.AssignmentsSound
import Pumpkin.Model.AssignmentsState
import Pumpkin.Model.Branching
import Pumpkin.Model.Cumulative
import Pumpkin.Model.CumulativeSound
import Pumpkin.Model.Dimacs
import Pumpkin.Model.DimacsLayout
import Pumpkin.Model.Drcp
import Pumpkin.Model.ImplicitReason
import Pumpkin.Model.Lits
import Pumpkin.Model.Narrow
import Pumpkin.Model.NumExt
import Pumpkin.Model.Predicate
import Pumpkin.Model.Propagation
import Pumpkin.Model.PropagationArith
import Pumpkin.Model.PropagationChecks
import Pumpkin.Model.PropagationCompile
import Pumpkin.Model.PropagationSound
import Pumpkin.Model.RecMin
import Pumpkin.Model.Search
import Pumpkin.Model.SemMin
import Pumpkin.Model.Wrap
import Pumpkin.Gen.Ambient
import Pumpkin.Gen.Tables
import Pumpkin.Props.C01
import Pumpkin.Props.C02
import Pumpkin.Props.C03
import Pumpkin.Props.C04
import Pumpkin.Props.C05
import Pumpkin.Props.C06
import Pumpkin.Props.C07
import Pumpkin.Props.C08
import Pumpkin.Props.C09
import Pumpkin.Props.C10
import Pumpkin.Props.C11
import Pumpkin.Props.C12
import Pumpkin.Props.C13
import Pumpkin.Props.C14
import Pumpkin.Props.C15
import Pumpkin.Props.C16
import Pumpkin.Props.C17
import Pumpkin.Props.C18
import Pumpkin.Props.C19
import Pumpkin.Props.C20
