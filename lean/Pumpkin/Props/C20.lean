/-
C20 — runs are reproducible for a fixed seed.

A machine-checked proof cannot establish the absence of hidden inputs in compiled Rust code
(hasher seeds, clocks, addresses). What it carries:

* `ambient_ok`: the translator's inventory (`Gen/Ambient.lean`, regenerated from the current source
  on every run) of every ambient-input source in the workspace — hash containers with std's
  randomly seeded hasher, clocks, entropy, environment, pointer values — contains only entries of
  an allowed class: containers with the fixed Fnv hasher, containers with the default hasher that
  are only used for look-ups or whose iteration is sorted before use, the clock of the documented
  `TimeBudget`, clocks that only reach time statistics / log lines. A new source, or one that
  starts to be iterated, breaks this obligation.
* the models of the pure components are functions of (input, options, random draws), so the same
  inputs give the same outputs.

The property itself is decided by the divergence search: identical invocations in separate
processes with perturbed environments must produce identical bytes.
-/
import Pumpkin.Gen.Ambient
import Pumpkin.Gen.Tables
import Pumpkin.Model.Branching

namespace Pumpkin.C20
open Pumpkin.Gen

def allowed : List AmbCls :=
  [.fixedHasher, .timeOnlyStats, .timeBudget, .defaultHasherLookupOnly, .defaultHasherIteratedSorted]

theorem ambient_ok : ∀ e ∈ ambient, e.cls ∈ allowed := by decide

/-- the inventory is not empty (the translator still finds the sources it is meant to find) -/
theorem ambient_nonvacuous : 5 ≤ ambient.length := by decide

/-- holds of any term, by `rfl`; says nothing about the Rust -/
theorem model_deterministic (x : Nat) (vs : List Int) (r : Int) (coin : Bool) :
    Branching.randomSplitter x vs r coin = Branching.randomSplitter x vs r coin := rfl

/-- the lengths of the option tables generated from the source; nothing here ties them to the streams -/
theorem option_spaces :
    cumulativeMethods.length = 6 ∧ cumulativeExplanations.length = 3 ∧ conflictResolvers.length = 2 ∧
    sequenceGenerators.length = 3 ∧ sortingStrategies.length = 2 ∧ optimisationStrategies.length = 2 ∧
    valueSelectors.length = 14 ∧ variableSelectors.length = 10 := by decide

end Pumpkin.C20
