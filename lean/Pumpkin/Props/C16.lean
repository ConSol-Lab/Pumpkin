/-
C16 — constraint arithmetic is exact over the admitted integer range.

The 32-bit instantiations of the arithmetic expressions (`Model/Wrap.lean`, written operation by
operation as in the Rust source) equal unbounded integer arithmetic if every intermediate result fits
`i32` (`…_exact`): the conditions under which a build with overflow checks does not panic. The witnesses
below show that they cannot be dropped: all inputs inside `i32`, an intermediate result outside, another
result. Inputs the API accepts (any `i32` bounds and coefficients) can violate them: known finding KF8
(DESIGN.md §0.5). The predicate translation through views (`div_ceil`/`div_floor`) is exact for every scale ≠ 0.
-/
import Pumpkin.Model.NumExt
import Pumpkin.Model.Wrap

namespace Pumpkin.C16

theorem view_value_exact (w : View) (x : Int) (h1 : fits32 (w.scale * x))
    (h2 : fits32 (w.scale * x + w.offset)) : w.map32 x = w.scale * x + w.offset :=
  View.map32_exact w x h1 h2

theorem view_lower_bound_predicate_exact (w : View) (v : Int) (a : List Int) (hs : w.scale ≠ 0) :
    (w.gePred v).holds a = true ↔ v ≤ w.eval a := View.gePred_sem w v a hs

theorem view_upper_bound_predicate_exact (w : View) (v : Int) (a : List Int) (hs : w.scale ≠ 0) :
    (w.lePred v).holds a = true ↔ w.eval a ≤ v := View.lePred_sem w v a hs

theorem linear_bound_exact (c lbLhs lbI : Int) (h1 : fits32 (lbLhs - lbI))
    (h2 : fits32 (c - (lbLhs - lbI))) : linLeBound32 c lbLhs lbI = c - (lbLhs - lbI) :=
  linLeBound32_exact c lbLhs lbI h1 h2

theorem product_exact (a b : Int) (h : fits32 (a * b)) : mul32 a b = a * b := mul32_exact a b h

/-- Full-strength statement is **false** for the code as written. Witnesses: -/
theorem product_partial_witness : fits32 65536 ∧ fits32 32768 ∧ mul32 65536 32768 ≠ 65536 * 32768 := by
  decide

theorem linear_bound_partial_witness :
    fits32 (-2147483000) ∧ fits32 1000 ∧ fits32 5 ∧
      linLeBound32 5 (-2147483000) 1000 ≠ 5 - (-2147483000 - 1000) := by decide

theorem view_value_partial_witness :
    (⟨3, 0, 0⟩ : View).map32 1073741824 ≠ 3 * 1073741824 + 0 := by decide

/-- div_ceil / div_floor agree with mathematical ceiling / floor for positive divisors. -/
theorem div_ceil_spec (a : Int) {b : Int} (hb : 0 < b) :
    b * divCeil a b - b < a ∧ a ≤ b * divCeil a b := divCeil_pos a hb
theorem div_floor_spec (a : Int) {b : Int} (hb : 0 < b) :
    b * divFloor a b ≤ a ∧ a < b * divFloor a b + b := divFloor_pos a hb

example : divCeil 7 2 = 4 ∧ divCeil (-7) 2 = -3 ∧ divCeil 7 (-2) = -3 ∧ divCeil (-7) (-2) = 4 ∧
    divFloor 7 2 = 3 ∧ divFloor (-7) 2 = -4 ∧ divFloor 7 (-2) = -4 ∧ divFloor (-7) (-2) = 3 := by decide

end Pumpkin.C16
