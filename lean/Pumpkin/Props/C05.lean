/-
C05 — assumption solving and extracted cores are sound.

* a solution under assumptions is accepted iff it satisfies the model and every assumption;
* "unsatisfiable under assumptions" is accepted iff model ∧ assumptions has no solution;
* a core is accepted iff `IsCore` holds: every core predicate is implied by the
  assumptions (relative to the declared domains) and model ∧ core is inconsistent;
* a "conflicting assumptions" report is accepted iff the assumption list contains a pair the
  code's own test `is_mutually_exclusive_with` (modelled by `Atom.mutex`) calls exclusive, and by
  `Atom.mutex_iff` that test is exact;
* assumptions are not retained: the solve after the assumption solves is judged against the
  original model.
-/
import Pumpkin.Check.Oracle
import Pumpkin.Model.Predicate

namespace Pumpkin.C05

theorem assumed_solution (m : Model) (as : List Atom) (a : List Int)
    (h : (m.withAtoms as).sat a = true) : m.sat a = true ∧ ∀ p ∈ as, p.holds a = true := by
  rw [withAtoms_sat, Bool.and_eq_true, List.all_eq_true] at h
  exact h

theorem unsat_under_assumptions (m : Model) (as : List Atom)
    (h : (solutions m).filter (fun a => as.all (·.holds a)) = []) :
    ∀ a, m.sat a = true → ¬ ∀ p ∈ as, p.holds a = true :=
  fun a ha hall => List.not_mem_nil (h ▸ List.mem_filter.2 ⟨(mem_solutions m a).2 ha, List.all_eq_true.2 hall⟩)

theorem core_accepted_iff (m : Model) (as core : List Atom) :
    checkCore m as core = true ↔ IsCore m as core := checkCore_iff m as core

theorem core_refutes (m : Model) (as core : List Atom) (h : IsCore m as core) :
    ∀ a, m.sat a = true → ¬ ∀ p ∈ as, p.holds a = true := by
  intro a ha hall
  exact h.2 a ha (fun c hc => h.1 c hc a (Model.sat_iff.1 ha).1 hall)

theorem mutex_exact (p q : Atom) :
    p.mutex q = true ↔ p.var = q.var ∧ ∀ z : Int, ¬ (p.holdsVal z = true ∧ q.holdsVal z = true) :=
  Atom.mutex_iff p q

theorem mutex_neg (p : Atom) : p.mutex p.neg = true :=
  (Atom.mutex_iff p p.neg).2 ⟨(Atom.neg_var p).symm, fun z h => by
    rw [Atom.neg_holdsVal, h.1] at h; exact Bool.noConfusion h.2⟩

example : checkCore (Model.mk [[0, 1, 2], [0, 1, 2], [0, 1, 2]] [Cons.allDiff [⟨1, 0, 0⟩, ⟨1, 0, 1⟩, ⟨1, 0, 2⟩]])
    [Atom.eq 0 1, Atom.le 1 1, Atom.ne 1 0, Atom.ge 2 0] [Atom.eq 0 1, Atom.eq 1 1] = true := by decide

end Pumpkin.C05
