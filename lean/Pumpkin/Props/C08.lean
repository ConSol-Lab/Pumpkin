/-
C08 — cumulative means the same under every propagator variant.

The specification of `cumulative` is: at *every* integer time point the resource usages of the
tasks running at that point sum to at most the capacity; `Cons.sat` evaluates this at the start
times of the tasks only. All six propagation methods × three explanation types × the three flags are
tied to this single meaning by comparing the solution *set* of each option set with the oracle.
-/
import Pumpkin.Spec.Basic
import Pumpkin.Spec.CumSem
import Pumpkin.Model.CumulativeSound

namespace Pumpkin.C08

/-- **The executable check decides the documented meaning.** For non-negative resource usages:
the oracle's test (load at every task's start time ≤ capacity, and 0 ≤ capacity) holds iff at
every time point the total usage of the running tasks is at most the capacity. -/
theorem cumulative_sat_iff (ts : List Task) (cap : Int) (a : List Int) (hu : ∀ k ∈ ts, 0 ≤ k.use) :
    (Cons.cumulative ts cap).sat a = true ↔ ∀ t : Int, loadAt ts a t ≤ cap :=
  CumSem.cumulative_sat_iff ts cap a hu

/-- Dropping the tasks of non-positive usage or duration (as `create_tasks` does) preserves the load at every
time point, unless some usage is negative (the second disjunct): then a dropped task may have contributed. -/
theorem loadAt_drop_zero (ts : List Task) (a : List Int) (t : Int) :
    loadAt (ts.filter (fun k => decide (0 < k.use) && decide (0 < k.dur))) a t = loadAt ts a t ∨
    ∃ k ∈ ts, k.use < 0 :=
  CumSem.loadAt_drop_zero ts a t

example : (Cons.cumulative [⟨⟨1, 0, 0⟩, 2, 2⟩, ⟨⟨1, 0, 1⟩, 3, 1⟩, ⟨⟨-1, 2, 0⟩, 0, 5⟩] 2).sat [-1, 0] = false ∧
    (Cons.cumulative [⟨⟨1, 0, 0⟩, 2, 2⟩, ⟨⟨1, 0, 1⟩, 3, 1⟩, ⟨⟨-1, 2, 0⟩, 0, 5⟩] 2).sat [-2, 0] = true := by decide

/-! ### the time-table propagators (`Pg.ttPass` in `Model/Propagation.lean`, `Pg.ttFix` in `Model/Cumulative.lean`)

`Pg.ttPass` is time-table filtering as a function on domains. The real solver's domains at every decision
point of solves over cumulative-only models are compared with its fixpoint `Pg.ttFix` (`fix` records): every
variant must be equal to it or weaker — the incremental variants occasionally miss a propagation —, never
stronger. -/

/-- **Time-table filtering never removes the start times of a schedule which satisfies the
constraint, and reports a conflict only if there is none** — for every domain state, every list of
tasks with non-negative usages (`tasksWf`; start times given as views, zero durations / usages, negative
start times) and capacity, with and without holes. -/
theorem timetable_never_prunes {n : Nat} (holes : Bool) (ts : List Task) (cap : Int)
    (hw : Pg.tasksWf n ts) (d : Pg.Doms) (hl : d.length = n) (a : List Int) (hin : inDoms d a = true)
    (hsat : (Cons.cumulative ts cap).sat a = true) :
    ∃ d', Pg.ttPass holes ts cap d = some d' ∧ inDoms d' a = true := by
  have hT : ∀ t, loadAt ts a t ≤ cap :=
    ((cumulative_sat_iff ts cap a (fun k hk => (hw k hk).2)).1 hsat)
  obtain ⟨d', e, h', _⟩ := Pg.ttPass_ok holes ts cap hw hT d hin hl
  exact ⟨d', e, h'⟩

/-- the same for the fixpoint over several cumulative constraints -/
theorem timetable_fixpoint_never_prunes {n : Nat} (cs : List (Bool × List Task × Int))
    (hw : Pg.ttWf n cs) (d : Pg.Doms) (hl : d.length = n) (a : List Int) (hin : inDoms d a = true)
    (hsat : ∀ c ∈ cs, (Cons.cumulative c.2.1 c.2.2).sat a = true) :
    ∃ d', Pg.ttFix cs d = some d' ∧ inDoms d' a = true := by
  have hs : Pg.ttSat cs a := fun c hc =>
    ((cumulative_sat_iff c.2.1 c.2.2 a (fun k hk => (hw c hc k hk).2)).1 (hsat c hc))
  obtain ⟨d', e, h', _⟩ := Pg.ttFix_ok cs hw hs d hin hl
  exact ⟨d', e, h'⟩

/-- so a conflict of the time-table refutes the constraint within the current domains -/
theorem timetable_conflict_sound {n : Nat} (holes : Bool) (ts : List Task) (cap : Int)
    (hw : Pg.tasksWf n ts) (d : Pg.Doms) (hl : d.length = n) (hc : Pg.ttPass holes ts cap d = none)
    (a : List Int) (hin : inDoms d a = true) : (Cons.cumulative ts cap).sat a = false := by
  cases hs : (Cons.cumulative ts cap).sat a
  · rfl
  · obtain ⟨d', e, _⟩ := timetable_never_prunes holes ts cap hw d hl a hin hs
    rw [hc] at e; cases e

-- non-vacuous: a task with a mandatory part pushes another one past it, and an overload is a conflict
example : Pg.ttPass false [⟨⟨1, 0, 0⟩, 4, 1⟩, ⟨⟨1, 0, 1⟩, 3, 1⟩] 1 [[1], [1, 2, 3, 4, 5, 6, 7, 8]]
    = some [[1], [5, 6, 7, 8]] := by decide
example : Pg.ttPass false [⟨⟨1, 0, 0⟩, 4, 1⟩, ⟨⟨1, 0, 1⟩, 4, 1⟩] 1 [[1], [1]] = none := by decide
example : Pg.ttPass true [⟨⟨1, 0, 0⟩, 2, 1⟩, ⟨⟨1, 0, 1⟩, 2, 1⟩] 1 [[3], [0, 1, 2, 3, 4, 5, 6]]
    = some [[3], [0, 1, 5, 6]] := by decide

end Pumpkin.C08
