/-
C10 — the solver stays usable and correct across any sequence of API calls.

`St`, `step`, `run` are the life-cycle automaton of `ConstraintSatisfactionSolver` (`CSPSolverState`) as far as the
public operations drive it: which state each operation requires (`declare_solving` asserts
Ready or Conflict), which state it leaves, and what `restore_state_at_root` does. With the repaired
`restore_state_at_root` (fix: "make the solver ready again after a solve that ends at the root
level") every operation sequence keeps the automaton out of `panic`, and after each returning
operation the state is Ready or Infeasible; on the unrepaired transition table a solve that ends at
the root level followed by another solve panics (`old_code_panics`).
`solving` and `infeasibleAssump` occur only inside a call: no transition ends in them. The automaton is
read off the code; no stream runs it beside the code. The answers themselves are judged, per history,
by the acceptors against the accumulated model.
-/
import Pumpkin.Spec.Basic
import Pumpkin.Props.C03

namespace Pumpkin.C10

inductive St | ready | solving | hasSolution | timeout | infeasible | infeasibleAssump | panic
deriving DecidableEq, Repr

/-- outcome of one run of the search loop -/
inductive Outcome
  | solution (atRoot : Bool)      -- Feasible; `atRoot`: the search never left decision level 0
  | unsat                          -- conflict at level 0
  | unsatAssump                    -- an assumption could not be posted
  | timeout (atRoot : Bool)
deriving DecidableEq, Repr

/-- `solve_under_assumptions` followed by what `Solver::satisfy` / `…_under_assumptions` + drop of
the result do (`restore_state_at_root`). `fixed = false` is the transition table before the repair. -/
def solveOp (fixed : Bool) (s : St) (o : Outcome) : St :=
  match s with
  | .infeasible => .infeasible            -- `is_inconsistent` ⇒ returns Infeasible immediately
  | .infeasibleAssump => .panic           -- `initialise` asserts this cannot be
  | .ready =>
    match o with
    | .unsat => .infeasible
    | .unsatAssump => .ready               -- level ≥ 1 at the failed assumption; restore ⇒ Ready
    | .solution atRoot => if atRoot && !fixed then .hasSolution else .ready
    | .timeout atRoot => if atRoot && !fixed then .timeout else .ready
  | _ => .panic                            -- `declare_solving` asserts Ready (or Conflict)

/-- posting a constraint / clause at the root -/
def postOp (s : St) (rootConflict : Bool) : St :=
  match s with
  | .ready => if rootConflict then .infeasible else .ready
  | .infeasible => .infeasible            -- returns Err without touching anything
  | other => other

inductive Op | solve (o : Outcome) | post (rootConflict : Bool)
deriving Repr

def step (fixed : Bool) (s : St) : Op → St
  | .solve o => solveOp fixed s o
  | .post c => postOp s c

def run (fixed : Bool) (ops : List Op) : St := ops.foldl (step fixed) .ready

theorem api_no_panic (ops : List Op) : run true ops = .ready ∨ run true ops = .infeasible := by
  suffices h : ∀ s, (s = .ready ∨ s = .infeasible) →
      (ops.foldl (step true) s = .ready ∨ ops.foldl (step true) s = .infeasible) from
    h .ready (Or.inl rfl)
  induction ops with
  | nil => exact fun s hs => hs
  | cons op ops ih =>
    intro s hs
    refine ih _ ?_
    rcases hs with rfl | rfl
    · cases op with
      | solve o => cases o <;> simp [step, solveOp]
      | post c => cases c <;> simp [step, postOp]
    · cases op with
      | solve o => simp [step, solveOp]
      | post c => simp [step, postOp]

theorem old_code_panics : run false [.solve (.solution true), .solve (.solution false)] = .panic := by
  decide

theorem old_code_panics_after_timeout :
    run false [.solve (.timeout true), .solve (.solution false)] = .panic := by decide

theorem accumulated (m : Model) (c : Cons) :
    solutions (C03.addCons m c) = (solutions m).filter (fun a => c.sat a) := C03.solutions_addCons m c

end Pumpkin.C10
