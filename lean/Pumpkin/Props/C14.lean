/-
C14 — DIMACS CNF verdicts are correct; UNSAT comes with a checkable DRAT proof.

* A printed model line is accepted iff it satisfies every clause, by `Model.sat` of the CNF turned into a
  0-1 model; that map is the driver's (`cnf_model_text` in `tools/cli_streams.py`) and has no Lean
  counterpart: `atomOfLit` copies its reading of one literal, and `lit_sem` is about that alone.
  `s UNSATISFIABLE` is accepted iff the oracle finds no model.
* The clauses written to the proof file are accepted iff `Rup.checkProof` accepts them, and
  `checkProof_sound` shows an accepted proof refutes the formula: up to the first empty lemma every
  lemma is a reverse-unit-propagation consequence of the formula and the earlier lemmas (what follows
  that lemma is not checked).
* Layout independence: three spellings of each formula are run, and `layout_independent` restates
  the theorem about the byte-level parser model.
-/
import Pumpkin.Spec.Basic
import Pumpkin.Check.Rup
import Pumpkin.Model.DimacsLayout

namespace Pumpkin.C14
open Pumpkin.Rup

/-- DIMACS literal ↦ atomic predicate over the 0-1 variable `|l| - 1` -/
def atomOfLit (l : Int) : Atom := if l > 0 then Atom.ge (l.natAbs - 1) 1 else Atom.le (l.natAbs - 1) 0

def boolAsg (a : List Int) : Nat → Bool := fun v => decide (val a (v - 1) ≥ 1)

theorem lit_sem (a : List Int) (l : Int) (h01 : val a (l.natAbs - 1) = 0 ∨ val a (l.natAbs - 1) = 1) :
    (atomOfLit l).holds a = litHolds (boolAsg a) l := by
  clear h01  -- idle: `v ≤ 0 ↔ ¬ v ≥ 1` over all of `Int`
  unfold atomOfLit litHolds boolAsg
  by_cases hp : l > 0
  · simp only [hp, if_true, Atom.holds, Atom.holdsVal, Atom.var]
  · simp only [hp, if_false, Atom.holds, Atom.holdsVal, Atom.var]
    rw [← decide_not]
    exact decide_eq_decide.2 (by omega)

theorem rup_consequence (cs : List Clause) (c : Clause) (hw : ∀ c' ∈ cs, WfClause c') (hwc : WfClause c)
    (h : rup cs c = true) (a : Nat → Bool) (hcs : cnfHolds a cs = true) : clauseHolds a c = true :=
  rup_sound cs c hw hwc h a hcs

theorem accepted_proof_refutes (cnf proof : List Clause) (hw : ∀ c ∈ cnf, WfClause c)
    (hwp : ∀ c ∈ proof, WfClause c) (h : checkProof cnf proof = true) :
    ¬ ∃ a : Nat → Bool, cnfHolds a cnf = true := by
  rintro ⟨a, ha⟩
  have := checkProof_sound cnf proof hw hwp h a
  simp [ha] at this

theorem needs_empty_clause (cnf proof : List Clause) (h : checkProof cnf proof = true) : [] ∈ proof := by
  induction proof generalizing cnf with
  | nil => cases h
  | cons l rest ih =>
    rcases (checkProof_cons h).2 with rfl | h'
    · exact List.mem_cons_self ..
    · exact List.mem_cons_of_mem _ (ih _ h')

example : checkProof [[1, 2], [-1, 2], [1, -2], [-1, -2]] [[2], []] = true := by decide
example : checkProof [[1, 2], [-1, 2], [1, -2]] [[2], []] = false := by decide

open Pumpkin.Dimacs

/-- Every file of the layout family (comments / blank space before the header, arbitrary blank runs
in the header, every literal followed by a non-empty white-space run and every terminator by a possibly
empty one, comments before the first literal of a line) is parsed to the formula it denotes. `hnv`, `hnc`: the
header's numbers fit `usize`; `hno10`: no line feed inside the header line. -/
theorem layout_independent (pre body : List Item) (sp1 sp2 sp3 : List Nat) (nv : Nat)
    (clauses : List (List Int))
    (hpre : Prelude pre)
    (h1 : sp1.all isHdrWs = true) (h2 : sp2.all isHdrWs = true) (h2ne : sp2 ≠ [])
    (h3 : sp3.all isHdrWs = true)
    (hno10 : (sp1 ++ sp2 ++ sp3).contains 10 = false)
    (hnv : nv ≤ 18446744073709551615) (hnc : clauses.length ≤ 18446744073709551615)
    (hbody : Valid { start := true, cur := [], out := [] } body)
    (hden : (denotes body).cur = [] ∧ (denotes body).out = clauses) :
    parseCnf (renderAll pre ++ (headerBytes sp1 nv sp2 clauses.length sp3 ++ [10] ++ renderAll body))
      = .ok (nv, clauses) :=
  Pumpkin.Dimacs.layout_independent pre body sp1 sp2 sp3 nv clauses hpre h1 h2 h2ne h3 hno10 hnv hnc hbody hden

theorem two_layouts_agree (pre pre' body body' : List Item) (sp1 sp2 sp3 sp1' sp2' sp3' : List Nat) (nv : Nat)
    (clauses : List (List Int))
    (hpre : Prelude pre) (hpre' : Prelude pre')
    (h1 : sp1.all isHdrWs = true) (h2 : sp2.all isHdrWs = true) (h2ne : sp2 ≠ []) (h3 : sp3.all isHdrWs = true)
    (hno10 : (sp1 ++ sp2 ++ sp3).contains 10 = false)
    (h1' : sp1'.all isHdrWs = true) (h2' : sp2'.all isHdrWs = true) (h2ne' : sp2' ≠ []) (h3' : sp3'.all isHdrWs = true)
    (hno10' : (sp1' ++ sp2' ++ sp3').contains 10 = false)
    (hnv : nv ≤ 18446744073709551615) (hnc : clauses.length ≤ 18446744073709551615)
    (hbody : Valid { start := true, cur := [], out := [] } body)
    (hbody' : Valid { start := true, cur := [], out := [] } body')
    (hden : (denotes body).cur = [] ∧ (denotes body).out = clauses)
    (hden' : (denotes body').cur = [] ∧ (denotes body').out = clauses) :
    parseCnf (renderAll pre ++ (headerBytes sp1 nv sp2 clauses.length sp3 ++ [10] ++ renderAll body)) =
    parseCnf (renderAll pre' ++ (headerBytes sp1' nv sp2' clauses.length sp3' ++ [10] ++ renderAll body')) :=
  (layout_independent pre body sp1 sp2 sp3 nv clauses hpre h1 h2 h2ne h3 hno10 hnv hnc hbody hden).trans
    (layout_independent pre' body' sp1' sp2' sp3' nv clauses hpre' h1' h2' h2ne' h3' hno10' hnv hnc hbody' hden').symm

/-- the body `1 -3\n 0 \nc x\n-2 0\n` as items; the second `example` below evaluates the parser model on
the bytes of a file with this body and does not go through `layout_independent` -/
def exBody : List Item :=
  [ .lit 1 [32], .lit (-3) [10, 32], .zero [32, 10], .comment [32, 120], .lit (-2) [32], .zero [10] ]

example : Valid { start := true, cur := [], out := [] } exBody ∧
    (denotes exBody).cur = [] ∧ (denotes exBody).out = [[1, -3], [-2]] := by
  refine ⟨?_, rfl, rfl⟩
  simp [exBody, Valid, Item.ok, Item.apply, isWs]

/-- the bytes of `c hi\np cnf  3\t2 \r\n` followed by that body -/
example : (match parseCnf [99, 32, 104, 105, 10, 112, 32, 99, 110, 102, 32, 32, 51, 9, 50, 32, 13, 10,
      49, 32, 45, 51, 10, 32, 48, 32, 10, 99, 32, 120, 10, 45, 50, 32, 48, 10] with
    | .ok r => r == (3, [[1, -3], [-2]])
    | .error _ => false) = true := by decide +kernel

/-- outside the family the parser does reject: a comment in the middle of a line -/
example : (match parseCnf [112, 32, 99, 110, 102, 32, 49, 32, 49, 10, 49, 32, 99, 32, 48, 10] with
    | .ok _ => false
    | .error e => e == .unexpectedChar 99) = true := by decide +kernel

end Pumpkin.C14
