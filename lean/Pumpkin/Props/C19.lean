/-
C19 — DRCP files written by the library read back unchanged.

The theorems are those of `Model/Drcp.lean` (proof steps, at token level; negating an atomic constraint
twice) and of `Model/Lits.lean` (the literal definition file, at byte level).

The reader in the Rust code used to reject four shapes that its writer emits (`fix: DRCP reader rejected
steps that the DRCP writer emits`); `old_reader_rejected` has these four, as tokens.
-/
import Pumpkin.Model.Drcp
import Pumpkin.Model.Lits

namespace Pumpkin.C19
open Pumpkin.Drcp

theorem read_back (s : Step) (h : s.WF) : parse (render s) = some s := parse_render s h

theorem read_back_sequence (ss : List Step) (h : ∀ s ∈ ss, s.WF) :
    (ss.map render).mapM parse = some ss := parse_render_seq ss h

theorem negate_twice_int (a : IntAtomic) : a.not.not = a := IntAtomic.not_not a
theorem negate_twice_int64 (a : IntAtomic)
    (h : -9223372036854775808 ≤ a.value ∧ a.value ≤ 9223372036854775807) : a.not64.not64 = a :=
  IntAtomic.not64_not64 a h
theorem negate_twice_bool (a : BoolAtomic) : a.not.not = a := BoolAtomic.not_not a

/-- The four shapes the Rust reader rejected before its repair are read back in the model (instances of
`read_back`). -/
theorem old_reader_rejected :
    parse (render (.inference 1 [] (some 7) none none)) = some (.inference 1 [] (some 7) none none) ∧
    parse (render (.inference 2 [] none (some 3) none)) = some (.inference 2 [] none (some 3) none) ∧
    parse (render (.nogood 5 [1, 2] (some []))) = some (.nogood 5 [1, 2] (some [])) ∧
    parse (render (.nogood 7 [] none)) = some (.nogood 7 [] none) := by decide

/-- The grammar is unambiguous where it matters: a `0` followed by numbers after a nogood's
literals is always the hint list. -/
example : parse [Tok.kw "n", Tok.num 100, Tok.num 0, Tok.num 1, Tok.num 4, Tok.num 5]
    = some (.nogood 100 [] (some [1, 4, 5])) := by decide

/-- Non-vacuity of `WF`. -/
example : (Step.inference 3 [-5, 2147483647] (some (-1)) (some 20) (some "linear_bound")).WF := by
  refine ⟨by decide, ?_, ?_, ?_⟩
  · intro p hp; simp at hp; rcases hp with rfl | rfl <;> decide
  · intro p hp; cases hp; decide
  · intro t ht; cases ht; decide

/-- A definition line written by `LiteralDefinitions::write` — any non-zero `u32` code, at least one
atomic constraint, names of the documented shape `[A-Za-z_][A-Za-z0-9_]*`, any comparison, any `i64`
value, either Boolean value — is read back unchanged by the model of the nom grammar. -/
theorem lits_line_read_back (code : Nat) (a : Pumpkin.Lits.Atomic) (as : List Pumpkin.Lits.Atomic)
    (hc : 1 ≤ code ∧ code ≤ 4294967295) (hw : ∀ x ∈ a :: as, Pumpkin.Lits.WfAtomic x) :
    Pumpkin.Lits.parseDef (Pumpkin.Lits.renderDef code (a :: as)) = some (code, a :: as) :=
  Pumpkin.Lits.parseDef_renderDef code a as hc hw

theorem lits_file_read_back (defs : List (Nat × List Pumpkin.Lits.Atomic))
    (hw : ∀ d ∈ defs, Pumpkin.Lits.WfDef d) :
    Pumpkin.Lits.parseFile (Pumpkin.Lits.renderFile defs) = some defs :=
  Pumpkin.Lits.parseFile_renderFile defs hw

/-- a name starting with `_` is well formed -/
example : Pumpkin.Lits.WfName [95, 98, 48] := ⟨95, [98, 48], rfl, by decide, by decide⟩

end Pumpkin.C19
