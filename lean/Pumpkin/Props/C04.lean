/-
C04 — optimisation returns a true optimum.

`lsu` mirrors `optimisation/linear_sat_unsat.rs` (minimisation of a view; maximisation is
minimisation of the negated view, exactly as the code does with `objective.scaled(-1)`):
after a first solution, repeatedly add the cut `objective ≤ best - 1` as a root clause and solve
again; when the solver reports unsatisfiable (or the cut itself is infeasible) the incumbent is
returned as optimal.  `lus` mirrors `linear_unsat_sat.rs`: assume `objective ≤ lb`, on failure add
`objective ≥ lb + 1` and continue.

For every sound and complete solve oracle (C01 + C02) both procedures return a solution of the
*original* model that no solution beats.
-/
import Pumpkin.Spec.Basic
import Pumpkin.Check.Oracle
import Pumpkin.Props.C03

namespace Pumpkin.C04
open Pumpkin.C03

/-- the assumption `objective ≤ l` of LUS; for the oracle an extra constraint -/
def leCons (obj : View) (l : Int) : Cons := Cons.linLe [obj] l

theorem leCons_sat (obj : View) (l : Int) (a : List Int) : (leCons obj l).sat a = true ↔ obj.eval a ≤ l := by
  simp [leCons, Cons.sat, sumViews]

def cut (obj : View) (best : Int) : Cons := Cons.linLe [obj] (best - 1)

theorem cut_sat (obj : View) (best : Int) (a : List Int) :
    (cut obj best).sat a = true ↔ obj.eval a ≤ best - 1 :=
  leCons_sat obj (best - 1) a  -- `cut obj best` unfolds to `leCons obj (best - 1)`

def geCons (obj : View) (k : Int) : Cons := Cons.linLe [obj.scaled (-1)] (-k)

theorem geCons_sat (obj : View) (k : Int) (a : List Int) : (geCons obj k).sat a = true ↔ k ≤ obj.eval a :=
  (leCons_sat (obj.scaled (-1)) (-k) a).trans (by rw [View.scaled_eval]; omega)

def lsu (s : Solve) (obj : View) : Nat → Model → List Int → List Int
  | 0, _, best => best
  | fuel + 1, m, best =>
    match s.run (addCons m (cut obj (obj.eval best))) with
    | none => best
    | some a => lsu s obj fuel (addCons m (cut obj (obj.eval best))) a

theorem cut_excludes (obj : View) (best : List Int) : (cut obj (obj.eval best)).sat best = false :=
  Bool.eq_false_iff.2 fun h => Int.lt_irrefl _ (Int.lt_of_le_sub_one ((cut_sat obj _ best).1 h))

/-- The incumbent of LSU is a solution of the model the loop was started on whatever the fuel (so also
when the loop is interrupted), and with fuel for every solution it is an optimum. -/
theorem lsu_spec (s : Solve) (obj : View) (fuel : Nat) (m : Model) (best : List Int)
    (hb : m.sat best = true) :
    m.sat (lsu s obj fuel m best) = true ∧
      ((solutions m).length ≤ fuel → ∀ a, m.sat a = true → obj.eval (lsu s obj fuel m best) ≤ obj.eval a) := by
  induction fuel generalizing m best with
  | zero =>
    exact ⟨hb, fun hf => absurd (List.length_pos_of_mem ((mem_solutions m best).2 hb)) (Nat.not_lt.2 hf)⟩
  | succ fuel ih =>
    cases hr : s.run (addCons m (cut obj (obj.eval best))) with
    | none =>
      simp only [lsu, hr]
      -- no solution satisfies the cut
      exact ⟨hb, fun _ a ha => Int.not_lt.1 fun hlt =>
        Bool.eq_false_iff.1 (s.complete _ hr a) (addCons_sat_iff.2 ⟨ha, (cut_sat ..).2 (Int.le_sub_one_of_lt hlt)⟩)⟩
    | some a =>
      simp only [lsu, hr]
      obtain ⟨h1, h2⟩ := ih _ a (s.sound _ a hr)
      obtain ⟨h1, hc⟩ := addCons_sat_iff.1 h1
      refine ⟨h1, fun hf a' ha' => ?_⟩
      have hlt := solutions_addCons_lt m _ best hb (cut_excludes obj best)
      -- a solution that satisfies the cut is covered by induction, any other is no better than `best`
      by_cases hc' : (cut obj (obj.eval best)).sat a' = true
      · exact h2 (Nat.le_of_lt_succ (Nat.lt_of_lt_of_le hlt hf)) a' (addCons_sat_iff.2 ⟨ha', hc'⟩)
      · -- result `≤ obj.eval best - 1 < obj.eval a'`
        exact Int.le_trans ((cut_sat ..).1 hc) (Int.le_of_lt (Int.not_le.1 (mt (cut_sat obj _ a').2 hc')))

theorem lsu_optimal (s : Solve) (obj : View) (fuel : Nat) (m : Model) (best : List Int)
    (hb : m.sat best = true) (hf : (solutions m).length ≤ fuel) :
    m.sat (lsu s obj fuel m best) = true ∧
      ∀ a, m.sat a = true → obj.eval (lsu s obj fuel m best) ≤ obj.eval a :=
  ⟨(lsu_spec s obj fuel m best hb).1, (lsu_spec s obj fuel m best hb).2 hf⟩

def optimiseMin (s : Solve) (obj : View) (fuel : Nat) (m : Model) : Option (List Int) :=
  match s.run m with
  | none => none
  | some a => some (lsu s obj fuel m a)

theorem optimiseMin_unsat_iff (s : Solve) (obj : View) (fuel : Nat) (m : Model) :
    optimiseMin s obj fuel m = none ↔ ∀ a, m.sat a = false := by
  unfold optimiseMin
  cases hr : s.run m with
  | none => exact ⟨fun _ => s.complete m hr, fun _ => rfl⟩
  | some a => exact ⟨nofun, fun h => absurd ((h a).symm.trans (s.sound m a hr)) Bool.false_ne_true⟩

theorem optimiseMin_optimal (s : Solve) (obj : View) (m : Model) (r : List Int)
    (h : optimiseMin s obj (solutions m).length m = some r) :
    m.sat r = true ∧ ∀ a, m.sat a = true → obj.eval r ≤ obj.eval a := by
  simp only [optimiseMin] at h
  cases hr : s.run m with
  | none => simp [hr] at h
  | some a =>
    simp only [hr, Option.some.injEq] at h
    subst h
    exact lsu_optimal s obj _ m a (s.sound m a hr) (Nat.le_refl _)

theorem maximise_via_negation (obj : View) (r : List Int) (m : Model)
    (h : ∀ a, m.sat a = true → (obj.scaled (-1)).eval r ≤ (obj.scaled (-1)).eval a) :
    ∀ a, m.sat a = true → obj.eval a ≤ obj.eval r := by
  intro a ha
  have := h a ha
  rw [View.scaled_eval, View.scaled_eval] at this
  omega

/-- The value the driver accepts as optimal is the specification-level minimum / maximum. -/
theorem accepted_min (m : Model) (obj : View) (v : Int) (h : optimum m obj false = some v) :
    (∃ a, m.sat a = true ∧ obj.eval a = v) ∧ ∀ a, m.sat a = true → v ≤ obj.eval a :=
  (optimum_min_spec m obj v).1 h

theorem accepted_max (m : Model) (obj : View) (v : Int) (h : optimum m obj true = some v) :
    (∃ a, m.sat a = true ∧ obj.eval a = v) ∧ ∀ a, m.sat a = true → obj.eval a ≤ v :=
  (optimum_max_spec m obj v).1 h

theorem unsat_iff (m : Model) (obj : View) (mx : Bool) : optimum m obj mx = none ↔ solutions m = [] :=
  optimum_none_iff m obj mx

/-- the root lower bound of the objective (`solver.lower_bound(&objective)` after root propagation):
any function that never exceeds the objective of a solution and that reflects a posted bound -/
structure RootLb (obj : View) where
  lb : Model → Int
  sound : ∀ m a, m.sat a = true → lb m ≤ obj.eval a
  reflects : ∀ m k a, (addCons m (geCons obj k)).sat a = true → k ≤ lb (addCons m (geCons obj k))

def lus (s : Solve) {obj : View} (r : RootLb obj) : Nat → Model → Option (List Int)
  | 0, _ => none
  | fuel + 1, m =>
    match s.run (addCons m (leCons obj (r.lb m))) with
    | some a => some a
    | none => lus s r fuel (addCons m (geCons obj (r.lb m + 1)))

/-- **LUS returns an optimum** (for every sound & complete oracle and every sound root bound), within
`objective(w) - lb + 1` rounds, `w` the solution of the feasibility check. -/
theorem lus_optimal (s : Solve) {obj : View} (r : RootLb obj) (fuel : Nat) (m : Model) (w : List Int)
    (hw : m.sat w = true) (hf : (obj.eval w - r.lb m).toNat < fuel) :
    ∃ a, lus s r fuel m = some a ∧ m.sat a = true ∧ ∀ b, m.sat b = true → obj.eval a ≤ obj.eval b := by
  induction fuel generalizing m with
  | zero => exact absurd hf (Nat.not_lt_zero _)
  | succ fuel ih =>
    simp only [lus]
    cases hr : s.run (addCons m (leCons obj (r.lb m))) with
    | some a =>
      obtain ⟨hsa, hle⟩ := addCons_sat_iff.1 (s.sound _ a hr)
      exact ⟨a, rfl, hsa, fun b hb => Int.le_trans ((leCons_sat ..).1 hle) (r.sound m b hb)⟩
    | none =>
      -- every solution lies strictly above the refuted bound, so the new hard constraint loses none
      have hiff : ∀ b, (addCons m (geCons obj (r.lb m + 1))).sat b = true ↔ m.sat b = true := fun b =>
        addCons_sat_iff.trans <| and_iff_left_of_imp fun hb => (geCons_sat ..).2 <| Int.not_le.1 fun hle =>
          Bool.eq_false_iff.1 (s.complete _ hr b) (addCons_sat_iff.2 ⟨hb, (leCons_sat ..).2 hle⟩)
      have hw' := (hiff w).2 hw
      -- the new root bound is above the old one and still below `w`: the distance to `w` has shrunk
      have hlb := r.reflects m (r.lb m + 1) w hw'
      have hwu := r.sound _ w hw'
      -- first `omega`: `0 < obj.eval w - r.lb m` (from `hwu`, `hlb`); second: `r.lb m <` the new bound (`hlb`)
      obtain ⟨a, ha, hsa, hopt⟩ := ih _ hw' <|
        Nat.lt_of_lt_of_le ((Int.toNat_lt_toNat (by omega)).2 (by omega)) (Nat.le_of_lt_succ hf)
      exact ⟨a, ha, (hiff a).1 hsa, fun b hb => hopt b ((hiff b).2 hb)⟩

def optimiseMinLus (s : Solve) {obj : View} (r : RootLb obj) (m : Model) : Option (List Int) :=
  match s.run m with
  | none => none
  | some w => lus s r ((obj.eval w - r.lb m).toNat + 1) m

theorem optimiseMinLus_spec (s : Solve) {obj : View} (r : RootLb obj) (m : Model) :
    (optimiseMinLus s r m = none ↔ ∀ a, m.sat a = false) ∧
    (∀ a, optimiseMinLus s r m = some a → m.sat a = true ∧ ∀ b, m.sat b = true → obj.eval a ≤ obj.eval b) := by
  unfold optimiseMinLus
  cases hr : s.run m with
  | none => exact ⟨⟨fun _ => s.complete m hr, fun _ => rfl⟩, nofun⟩
  | some w =>
    have hw := s.sound m w hr
    obtain ⟨a, ha, hsa, hopt⟩ := lus_optimal s r _ m w hw (Nat.lt_succ_self _)
    dsimp only
    rw [ha]
    exact ⟨⟨nofun, fun h => absurd ((h w).symm.trans hw) Bool.false_ne_true⟩,
      fun a' h => Option.some.inj h ▸ ⟨hsa, hopt⟩⟩

/-- `RootLb` is inhabited: the exact minimum is a root bound. -/
def RootLb.exact (obj : View) : RootLb obj where
  lb m := match optimum m obj false with | some v => v | none => 0
  sound m a ha := by
    cases h : optimum m obj false with
    | none =>
      have := (optimum_none_iff m obj false).1 h
      have hm := (mem_solutions m a).2 ha
      rw [this] at hm; cases hm
    | some v => exact ((optimum_min_spec m obj v).1 h).2 a ha
  reflects m k a ha := by
    cases h : optimum (addCons m (geCons obj k)) obj false with
    | none =>
      have := (optimum_none_iff _ obj false).1 h
      have hm := (mem_solutions _ a).2 ha
      rw [this] at hm; cases hm
    | some v =>
      obtain ⟨⟨b, hb, hbv⟩, _⟩ := (optimum_min_spec _ obj v).1 h
      rw [addCons_sat, Bool.and_eq_true] at hb
      have := (geCons_sat obj k b).1 hb.2
      simp only; omega

example : optimiseMinLus firstSolve (RootLb.exact ⟨-2, 1, 0⟩)
    (Model.mk [[0, 1, 2], [0, 1]] [Cons.linLe [⟨1, 0, 0⟩, ⟨1, 0, 1⟩] 2]) = some [2, 0] := by decide +kernel

example : optimiseMin firstSolve ⟨-2, 1, 0⟩ 3 (Model.mk [[0, 1, 2], [0, 1]] [Cons.linLe [⟨1, 0, 0⟩, ⟨1, 0, 1⟩] 2])
    = some [2, 0] := by decide

end Pumpkin.C04
