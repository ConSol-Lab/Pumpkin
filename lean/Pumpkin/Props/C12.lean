/-
C12 — root bounds reported by the solver never exclude a solution.

The driver accepts reported bounds `[lb, ub]` of a variable (or view) iff they enclose the value in
every solution of the accumulated model and lie within the declared domain; monotonicity along the
posting sequence is checked by the harness on the reported numbers.
-/
import Pumpkin.Spec.Basic
import Pumpkin.Check.Oracle
import Pumpkin.Model.PropagationCompile
import Pumpkin.Model.AssignmentsState
import Pumpkin.Model.AssignmentsRefine

namespace Pumpkin.C12

theorem bounds_enclose (m : Model) (x : Nat) (lb ub : Int)
    (h : checkBounds (solutions m) x lb ub = true) (a : List Int) (ha : m.sat a = true) :
    lb ≤ val a x ∧ val a x ≤ ub := checkBounds_sound m x lb ub h a ha

theorem view_bounds_enclose (m : Model) (w : View) (lb ub : Int)
    (h : checkViewBounds (solutions m) w lb ub = true) (a : List Int) (ha : m.sat a = true) :
    lb ≤ w.eval a ∧ w.eval a ≤ ub := checkViewBounds_sound m w lb ub h a ha

/-- Bounds of a view computed from enclosing bounds of its variable (the `AffineView` rule: swap for
negative scale) enclose the view's value. -/
theorem view_rule (w : View) (a : List Int) (lb ub : Int) (h : lb ≤ val a w.var ∧ val a w.var ≤ ub) :
    (if w.scale < 0 then w.scale * ub + w.offset else w.scale * lb + w.offset) ≤ w.eval a ∧
    w.eval a ≤ (if w.scale < 0 then w.scale * lb + w.offset else w.scale * ub + w.offset) := by
  split
  · rename_i hs
    exact ⟨Int.add_le_add_right (Int.mul_le_mul_of_nonpos_left (Int.le_of_lt hs) h.2) _,
      Int.add_le_add_right (Int.mul_le_mul_of_nonpos_left (Int.le_of_lt hs) h.1) _⟩
  · rename_i hs
    exact ⟨Int.add_le_add_right (Int.mul_le_mul_of_nonneg_left h.1 (Int.not_lt.1 hs)) _,
      Int.add_le_add_right (Int.mul_le_mul_of_nonneg_left h.2 (Int.not_lt.1 hs)) _⟩

/-- Adding a constraint can only shrink the solution set, so enclosing bounds stay enclosing. -/
theorem more_constraints_fewer_solutions (m : Model) (c : Cons) (a : List Int)
    (h : (Model.mk m.doms (m.cons ++ [c])).sat a = true) : m.sat a = true :=
  (Bool.and_eq_true_iff.1 ((Model.sat_append m.doms m.cons [c] a).symm.trans h)).1

/-- **The modelled root state** (`Pg.rootFix`: the constraints posted one after the other, each
decomposed into propagators as `pumpkin_solver::constraints` does and propagated to the fixpoint;
tied to the real solver's root domains by exact correspondence on every run) **contains the value
of every variable in every solution of the model**, for every
model built from the modelled constraint kinds whose variables are in range and whose `cumulative` tasks have
no negative usage (`consWf`). -/
theorem root_state_encloses (m : Model) (hw : ∀ c ∈ m.cons, Pg.consWf m.doms.length c) (d : Pg.Doms)
    (hr : Pg.rootFix m.doms m.cons = some (some d)) (a : List Int) (ha : m.sat a = true) (x : Nat)
    (hx : x < m.doms.length) : val a x ∈ Pg.dom d x ∧ Pg.lb d (View.ofVar x) ≤ val a x ∧ val a x ≤ Pg.ub d (View.ofVar x) := by
  have hin := Pg.rootFix_encloses m hw d hr a ((mem_solutions m a).2 ha)
  have hxa : x < a.length := inDoms_length (Model.sat_iff.1 ha).1 ▸ hx
  -- `Pg.dom` is `AtomRup.domOf` and `(View.ofVar x).var` is `x`, by definition
  exact ⟨AtomRup.val_mem_of_inDoms hin (inDoms_length hin ▸ hxa), View.ofVar_eval x a ▸ Pg.lb_le hin (w := View.ofVar x) hxa,
    View.ofVar_eval x a ▸ Pg.le_ub hin (w := View.ofVar x) hxa⟩

example : Pg.rootFix [[0, 1, 2, 3], [0, 1, 2, 3]] [Cons.linLe [⟨1, 0, 0⟩, ⟨1, 0, 1⟩] 1, Cons.linNe [⟨1, 0, 0⟩] 0]
    = some (some [[1], [0]]) := by decide

/-! ### the domain store itself (`engine/cp/assignments.rs`, `Model/Assignments.lean`)

The bounds the API reports are read from `Assignments`; the following hold for the model of its update
lists after **every** sequence of operations (variable creation at the root, posting predicates of the
four kinds — also ones emptying a domain —, opening decision levels, backtracking), and the model is
tied to the real store by exact correspondence of every observable after every operation (`asg`
records). -/

/-- The reported bounds of a non-empty domain are values of the domain (never a hole, never outside),
and every value of the domain lies between them. -/
theorem store_bounds_tight (ops : List Asg.St.Op) (x : Nat)
    (hx : x < (Asg.St.run Asg.St.empty ops).doms.length)
    (hne : (Asg.St.run Asg.St.empty ops).lb x ≤ (Asg.St.run Asg.St.empty ops).ub x) :
    (Asg.St.run Asg.St.empty ops).contains x ((Asg.St.run Asg.St.empty ops).lb x) = true ∧
    (Asg.St.run Asg.St.empty ops).contains x ((Asg.St.run Asg.St.empty ops).ub x) = true ∧
    ∀ v, (Asg.St.run Asg.St.empty ops).contains x v = true →
      (Asg.St.run Asg.St.empty ops).lb x ≤ v ∧ v ≤ (Asg.St.run Asg.St.empty ops).ub x :=
  Asg.bounds_tight ops x hx hne

/-- A value is in the domain of `x` exactly if the declared interval and every predicate currently on
the trail over `x` allow it: nothing else is ever lost (no solution excluded by the store), nothing
comes back. -/
theorem store_domain_is_trail (ops : List Asg.St.Op) (x : Nat) (v : Int)
    (hx : x < (Asg.St.run Asg.St.empty ops).doms.length) :
    (Asg.St.run Asg.St.empty ops).contains x v = true ↔
      ∀ e ∈ (Asg.St.run Asg.St.empty ops).trail, e.atom.var = x → e.allows v :=
  Asg.mem_iff_trail ops x v hx

/-- Posting a predicate removes exactly the values it excludes ("only ever tighten"), whatever the
state of the update lists. -/
theorem store_post_exact (s : Asg.St) (p : Atom) (hp : p.var < s.doms.length) (x : Nat) (v : Int) :
    (s.post p).1.contains x v = true ↔ s.contains x v = true ∧ (x = p.var → p.holdsVal v = true) :=
  Asg.post_contains s p hp x v

/-- Backtracking gives back exactly the state in which the level was left. -/
theorem store_backtrack_restores (ops ops' : List Asg.St.Op)
    (h : ∀ k, Asg.St.Op.sync k ∈ ops' → (Asg.St.run Asg.St.empty ops).level < k) :
    (Asg.St.run (Asg.St.run Asg.St.empty ops).newLevel ops').sync (Asg.St.run Asg.St.empty ops).level
      = Asg.St.run Asg.St.empty ops :=
  Asg.sync_restores _ (Asg.inv_run ops _ Asg.inv_empty) ops' h

/-- **The store refines the abstract domains of the propagator models**: the values read off the
store (`Asg.toDoms`) form a `Doms`, and posting a predicate on the store is `AtomRup.assume` on it (the
filter which `Pg.postAtom` of `Model/Propagation.lean` applies, at the identity view, before its emptiness
test) — in every reachable state. -/
theorem store_refines_domains (ops : List Asg.St.Op) (p : Atom)
    (hp : p.var < (Asg.St.run Asg.St.empty ops).doms.length) :
    Asg.toDoms ((Asg.St.run Asg.St.empty ops).post p).1 =
      AtomRup.assume (Asg.toDoms (Asg.St.run Asg.St.empty ops)) p :=
  Asg.post_refines _ (Asg.inv_run ops _ Asg.inv_empty) p hp

-- the hypotheses are met by a non-trivial history: a bound lands on a hole and skips it, a level is
-- opened, the domain is emptied, and backtracking restores the state
example :
    let ops := [Asg.St.Op.grow 1 1, .grow 0 5, .post (.ne 1 2), .post (.ge 1 2)]
    let s := Asg.St.run Asg.St.empty ops
    s.lb 1 = 3 ∧ s.contains 1 2 = false ∧
    (Asg.St.run s.newLevel [.post (.le 1 3), .post (.ne 1 3)]).lb 1 = 4 ∧
    (Asg.St.run s.newLevel [.post (.le 1 3), .post (.ne 1 3)]).ub 1 = 2 ∧
    (Asg.St.run s.newLevel [.post (.le 1 3), .post (.ne 1 3)]).sync s.level = s := by decide

end Pumpkin.C12
