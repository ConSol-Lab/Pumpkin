/-
C17 — every explanation given by a propagator follows from its constraint.

The driver accepts an explanation `premises → conclusion` (or `premises → ⊥` for a conflict) that
the tap recorded for a propagator iff `checkInference` holds for the constraint the propagator was
posted for; `checkInference_iff` makes that acceptance *equivalent* to semantic entailment within
the declared domains.
"The stated facts hold in the state in which the reason is given" is evaluated inside the hook.
-/
import Pumpkin.Spec.Basic
import Pumpkin.Check.Oracle
import Pumpkin.Model.ImplicitReason
import Pumpkin.Model.PropagationCompile
import Pumpkin.Model.AssignmentsHist

namespace Pumpkin.C17

theorem accepted_propagation (doms : List (List Int)) (c : Cons) (prem : List Atom) (q : Atom)
    (h : checkInference doms c prem (some q) = true) (a : List Int) (hd : inDoms doms a = true)
    (hc : c.sat a = true) (hp : ∀ p ∈ prem, p.holds a = true) : q.holds a = true :=
  (checkInference_iff doms c prem (some q)).1 h a hd hc hp

theorem accepted_conflict (doms : List (List Int)) (c : Cons) (prem : List Atom)
    (h : checkInference doms c prem none = true) (a : List Int) (hd : inDoms doms a = true)
    (hc : c.sat a = true) : ¬ ∀ p ∈ prem, p.holds a = true :=
  (checkInference_iff doms c prem none).1 h a hd hc

/-- Completeness of the acceptor: a semantically valid explanation is never rejected. -/
theorem valid_explanation_accepted (doms : List (List Int)) (c : Cons) (prem : List Atom) (q : Atom)
    (h : ∀ a, inDoms doms a = true → c.sat a = true → (∀ p ∈ prem, p.holds a = true) → q.holds a = true) :
    checkInference doms c prem (some q) = true :=
  (checkInference_iff doms c prem (some q)).2 h

/-- A propagated predicate with an accepted explanation never removes a value used by a solution
of the constraint that agrees with the premises. -/
theorem never_prunes_solution (doms : List (List Int)) (c : Cons) (prem : List Atom) (q : Atom)
    (h : checkInference doms c prem (some q) = true) (a : List Int) (hd : inDoms doms a = true)
    (hc : c.sat a = true) (hp : ∀ p ∈ prem, p.holds a = true) : q.neg.holds a = false := by
  rw [Atom.neg_holds, accepted_propagation doms c prem q h a hd hc hp]; rfl

/-- Model-level acceptance (used for the nogood propagator): entailed by the model. -/
theorem accepted_model_inference (m : Model) (prem : List Atom) (q : Atom)
    (h : checkNogood (solutions m) (q.neg :: prem) = true) (a : List Int) (ha : m.sat a = true)
    (hp : ∀ p ∈ prem, p.holds a = true) : q.holds a = true := by
  cases hq : q.holds a with
  | true => rfl
  | false =>
    exact absurd (List.forall_mem_cons.2 ⟨by rw [Atom.neg_holds, hq]; rfl, hp⟩) (checkNogood_sound m _ h a ha)

/-- The implicit reasons of conflict analysis (for a predicate that is true but not literally on the
trail; `Model/ImplicitReason.lean` mirrors the code arm by arm) entail the explained predicate for
**every** integer value — no constraint, no domain involved. -/
theorem implicit_reason_entails (trail queried : Atom) (r : List Atom) (hv : trail.var = queried.var)
    (h : Pumpkin.Implicit.implicitReason trail queried = some r) (a : List Int)
    (hr : ∀ p ∈ r, p.holds a = true) : queried.holds a = true :=
  -- `p.holds a` is `p.holdsVal (val a p.var)`, and every `p` of the reason is over `queried.var`
  Pumpkin.Implicit.implicit_entails trail queried r hv h _ fun p hp =>
    Pumpkin.Implicit.implicit_same_var trail queried r hv h p hp ▸ (hr p hp : p.holdsVal (val a p.var) = true)

/-- … and do not contain the explained predicate itself, when it is not the trail predicate (`hne`). -/
theorem implicit_reason_progress (trail queried : Atom) (r : List Atom)
    (h : Pumpkin.Implicit.implicitReason trail queried = some r) (hne : trail ≠ queried) : queried ∉ r :=
  Pumpkin.Implicit.implicit_smaller trail queried r h hne

example : checkInference [[0, 1, 2, 3], [0, 1, 2, 3]] (Cons.linLe [⟨1, 0, 0⟩, ⟨1, 0, 1⟩] 3)
    [Atom.ge 0 2] (some (Atom.le 1 1)) = true := by decide
example : checkInference [[0, 1, 2, 3], [0, 1, 2, 3]] (Cons.linLe [⟨1, 0, 0⟩, ⟨1, 0, 1⟩] 3)
    [Atom.ge 0 2] (some (Atom.le 1 0)) = false := by decide


/-! ### the propagator models (`Model/Propagation.lean`, tied to the code by the `fix` records)

For **every** domain state, view and constant — no bound on sizes, signs or holes: -/

/-- A pass of any modelled propagator (LinearLeq, LinearNe, IntAbs, Maximum, IntTimes, Division,
Element, the clause unit rule, the time-table for cumulative, the reified wrapper around any of them)
never removes a value used by a solution of its constraint within the current domains … -/
theorem propagation_never_prunes (n : Nat) (p : Pg.PropInst) (hw : p.Wf n) (d d' : Pg.Doms) (hl : d.length = n)
    (hp : p.pass d = some d') (a : List Int) (hin : inDoms d a = true) (hsat : p.cons.sat a = true) :
    inDoms d' a = true := by
  obtain ⟨d'', e, h', _⟩ := Pg.pass_ok p hw d hin hl hsat
  rw [hp] at e; cases e; exact h'

/-- … and signals a conflict only if its constraint has no solution within the current domains. -/
theorem propagation_conflict_sound (n : Nat) (p : Pg.PropInst) (hw : p.Wf n) (d : Pg.Doms) (hl : d.length = n)
    (hp : p.pass d = none) (a : List Int) (hin : inDoms d a = true) : p.cons.sat a = false := by
  cases hs : p.cons.sat a with
  | false => rfl
  | true =>
    obtain ⟨d'', e, _, _⟩ := Pg.pass_ok p hw d hin hl hs
    rw [hp] at e; cases e

/-- The same for the fixpoint of any set of propagators (one decision point to the next). -/
theorem fixpoint_never_prunes (n : Nat) (ps : List Pg.PropInst) (hw : ∀ p ∈ ps, p.Wf n) (d d' : Pg.Doms)
    (hl : d.length = n) (hf : Pg.fixpoint ps d = some d') (a : List Int) (hin : inDoms d a = true)
    (hsat : ∀ p ∈ ps, p.cons.sat a = true) : inDoms d' a = true :=
  Pg.fixpoint_keeps_solutions ps hw d d' hl hf a hin hsat

-- the hypotheses are satisfiable and the passes do something: x0 + x1 ≤ 3 with x0 ≥ 2 narrows x1
example : (Pg.PropInst.linLe [⟨1, 0, 0⟩, ⟨1, 0, 1⟩] 3).pass [[2, 3], [0, 1, 2, 3]] = some [[2, 3], [0, 1]] := by decide
example : (Pg.PropInst.div ⟨1, 0, 0⟩ ⟨1, 0, 1⟩ ⟨1, 0, 2⟩).pass [[7, 8, 9], [2, 3], [0, 1, 2, 3, 4, 5]]
    = some [[7, 8, 9], [2, 3], [2, 3, 4]] := by decide
example : (Pg.PropInst.times ⟨1, 0, 0⟩ ⟨1, 0, 1⟩ ⟨1, 0, 2⟩).pass [[2], [3], [5]] = none := by decide

/-! ### bounds at an earlier trail position

Lazy explanations and conflict analysis ask the domain store for the bounds a variable had at an
earlier trail position. In the model of the store (`Model/Assignments.lean`, tied to the real
`Assignments` by the `asg` correspondence, which compares these queries at every position) the answer is
the bound in the domains rebuilt from the trail entries up to that position (`build (upTo trail p)`), in
every reachable state. (That this replay is the state the store was in at that moment is not stated.) -/

theorem store_historic_bounds (ops : List Asg.St.Op) (x p : Nat)
    (hp : p < (Asg.St.run Asg.St.empty ops).trail.length)
    (hx : x < (Asg.build (Asg.upTo (Asg.St.run Asg.St.empty ops).trail p)).length) :
    ((Asg.St.run Asg.St.empty ops).dom x).lbAt p =
        ((Asg.build (Asg.upTo (Asg.St.run Asg.St.empty ops).trail p)).getD x default).lb ∧
    ((Asg.St.run Asg.St.empty ops).dom x).ubAt p =
        ((Asg.build (Asg.upTo (Asg.St.run Asg.St.empty ops).trail p)).getD x default).ub := by
  have h := Asg.inv_run ops _ Asg.inv_empty
  rw [Asg.St.dom, h.doms]
  exact Asg.boundsAt_spec _ h.wf x p hp hx

-- non-vacuous: after [x >= 2] (position 4) and [x >= 4] (position 5) the bound at position 4 is 2
example :
    let s := Asg.St.run Asg.St.empty [.grow 1 1, .grow 0 9, .newLevel, .post (.ge 1 2), .post (.ge 1 4)]
    (s.dom 1).lbAt 4 = 2 ∧ (s.dom 1).lbAt 5 = 4 ∧ (s.dom 1).lbAt 3 = 0 := by decide

end Pumpkin.C17
