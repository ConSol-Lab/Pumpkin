/-
C07 — answers do not depend on the solver configuration.

The specification-level answers (satisfiability, the solution set, the optimum) are functions of
the model alone; every answer the real solver gives under any option vector / brancher is judged
against them. Two configurations that are both accepted therefore agree: proved here for the solution
lists (permutations of each other) and the optimal value (equal); no theorem here is about the verdict.
-/
import Pumpkin.Spec.Basic
import Pumpkin.Check.Oracle
import Pumpkin.Props.C03
import Pumpkin.Props.C04

namespace Pumpkin.C07

theorem accepted_sets_agree (m : Model) (hd : ∀ d ∈ m.doms, d.Nodup) (l₁ l₂ : List (List Int))
    (h₁ : checkSolSet m (solutions m) l₁ = true) (h₂ : checkSolSet m (solutions m) l₂ = true) :
    l₁.Perm l₂ :=
  (checkSolSet_perm m hd l₁ h₁).trans (checkSolSet_perm m hd l₂ h₂).symm

theorem accepted_optima_agree (m : Model) (obj : View) (mx : Bool) (v₁ v₂ : Int)
    (h₁ : optimum m obj mx = some v₁) (h₂ : optimum m obj mx = some v₂) : v₁ = v₂ := by
  rw [h₁] at h₂; exact Option.some.inj h₂

/-- `s₁`, `s₂`: any two configurations, given C01 + C02. -/
theorem iterate_config_free (s₁ s₂ : C03.Solve) (m : Model) (hd : ∀ d ∈ m.doms, d.Nodup) :
    (C03.iterate s₁ ((solutions m).length + 1) m).Perm (C03.iterate s₂ ((solutions m).length + 1) m) :=
  (C03.iterate_exact s₁ _ m hd (Nat.lt_succ_self _)).trans
    (C03.iterate_exact s₂ _ m hd (Nat.lt_succ_self _)).symm

theorem optimise_config_free (s₁ s₂ : C03.Solve) (obj : View) (m : Model) (r₁ r₂ : List Int)
    (h₁ : C04.optimiseMin s₁ obj (solutions m).length m = some r₁)
    (h₂ : C04.optimiseMin s₂ obj (solutions m).length m = some r₂) : obj.eval r₁ = obj.eval r₂ := by
  have a := C04.optimiseMin_optimal s₁ obj m r₁ h₁
  have b := C04.optimiseMin_optimal s₂ obj m r₂ h₂
  exact Int.le_antisymm (a.2 r₂ b.1) (b.2 r₁ a.1)

end Pumpkin.C07
