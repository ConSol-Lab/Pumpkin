/-
C01 — every returned solution satisfies the whole model.

The driver accepts a reported solution `a` iff `Model.sat m a`; the theorems below say what acceptance
means at the level of the specification, including constraints over views and (half-)reified constraints.
-/
import Pumpkin.Spec.Basic
import Pumpkin.Model.PropagationChecks
import Pumpkin.Model.PropagationCompile
import Pumpkin.Model.AssignmentsEvents

namespace Pumpkin.C01

/-- An accepted solution is total (one value per variable), inside the declared domains, and
satisfies every constraint. -/
theorem accepted_solution (m : Model) (a : List Int) (h : m.sat a = true) :
    a.length = m.doms.length ∧ inDoms m.doms a = true ∧ ∀ c ∈ m.cons, c.sat a = true := by
  rw [Model.sat_iff] at h
  exact ⟨inDoms_length h.1, h.1, h.2⟩

/-- Acceptance coincides with membership in the verified oracle's solution list. -/
theorem accepted_iff_oracle (m : Model) (a : List Int) : m.sat a = true ↔ a ∈ solutions m :=
  (mem_solutions m a).symm

/-- Half reification has implication semantics. -/
theorem implied_sem (r : Atom) (c : Cons) (a : List Int) :
    (Cons.implied r c).sat a = true ↔ (r.holds a = true → c.sat a = true) :=
  Cons.implied_sat_iff r c a

/-- Full reification has equivalence semantics. -/
theorem reif_sem (r : Atom) (c : Cons) (a : List Int) :
    (Cons.reif r c).sat a = true ↔ (r.holds a = true ↔ c.sat a = true) := by
  simp only [Cons.sat]
  cases r.holds a <;> cases c.sat a <;> simp

theorem view_sem (w : View) (a : List Int) : w.eval a = w.scale * val a w.var + w.offset := rfl

/-- Non-vacuity: a concrete model with a view, a reified constraint and a sparse domain has an
accepted solution and a rejected assignment. -/
example :
    let m : Model := { doms := [[0, 2, 5], [0, 1]],
                       cons := [Cons.reif (Atom.ge 1 1) (Cons.linLe [⟨-2, 1, 0⟩] (-3))] }
    m.sat [2, 1] = true ∧ m.sat [2, 0] = false ∧ m.sat [1, 1] = false := by decide


/-! ### why "no decision left, fixpoint, no conflict" is a solution

The solver hands out the current assignment when the brancher has no decision left, i.e. every
variable is fixed, propagation is at its fixpoint and no conflict was reported. Over the propagator
models of `Model/Propagation.lean` (tied to the real propagation by the exact `fix` correspondence:
the last record of every satisfiable solve is exactly such a state) this is a theorem: -/

/-- **A full assignment whose propagation fixpoint reports no conflict satisfies the whole model**,
for every model of the modelled constraint kinds (linear ≤ = ≠, times, division, absolute value,
maximum / minimum, element, all-different, cumulative, clauses, conjunctions, negation, half and full
reification, over arbitrary views). `Pre` are the preconditions the real propagators assert
(denominator ≠ 0, `maximum` over a non-empty array, a non-negative capacity of `cumulative`); `consWf`
asks, beyond variables in range, that no task of a `cumulative` has a negative usage. -/
theorem fixed_fixpoint_is_solution (m : Model) (hw : ∀ c ∈ m.cons, Pg.consWf m.doms.length c)
    (ps : List Pg.PropInst) (hc : Pg.compileAll m.doms m.cons = some ps) (a : List Int)
    (hin : inDoms m.doms a = true) (hpre : ∀ p ∈ ps, p.Pre a) (d' : Pg.Doms)
    (hf : Pg.fixpoint ps (Pg.sing a) = some d') : m.sat a = true := by
  have hwf := Pg.compileAll_wf m.doms m.cons ps hc hw
  rw [← inDoms_length hin] at hwf
  exact Model.sat_iff.2 ⟨hin, (Pg.compileAll_sat_iff m.doms m.cons ps hc a hin).1 (Pg.fixpoint_checks ps hwf hpre d' hf).2⟩

/-- … and conversely a full assignment that satisfies the constraints of all propagators is never rejected: the
fixpoint at it reports no conflict. -/
theorem solution_is_fixed_fixpoint (n : Nat) (ps : List Pg.PropInst) (hw : ∀ p ∈ ps, p.Wf n) (a : List Int)
    (hl : a.length = n) (hsat : ∀ p ∈ ps, p.cons.sat a = true) : ∃ d', Pg.fixpoint ps (Pg.sing a) = some d' := by
  obtain ⟨d', e, _, _⟩ := Pg.fixpoint_ok ps hw hsat (Pg.sing a) (Pg.inDoms_sing a) (by simp [Pg.sing, hl])
  exact ⟨d', e⟩

-- a violated constraint is detected at the full assignment, a satisfied one is not
example : Pg.fixpoint [.div ⟨1, 0, 0⟩ ⟨1, 0, 1⟩ ⟨1, 0, 2⟩] (Pg.sing [-7, 2, -4]) = none := by decide
example : Pg.fixpoint [.div ⟨1, 0, 0⟩ ⟨1, 0, 1⟩ ⟨1, 0, 2⟩] (Pg.sing [-7, 2, -3]) = some (Pg.sing [-7, 2, -3]) := by decide

/-! ### propagators are woken by every change (`EventSink`)

A propagator only runs when it is notified of a domain event of one of its variables; "every propagator
detects violation once its variables are fixed" therefore needs every change to raise its event. In the
model of the domain store (tied to the real `Assignments` incl. its event sink by the `asg`
correspondence): -/

/-- For one bound update or removal (`applyAtom` of `[x >= v]`, `[x <= v]`, `[x != v]`; `changes` is false of
`[x == v]`, which `post_predicate` does as two bound updates) that changes the domain: `LowerBound` /
`UpperBound` is raised exactly when that bound has moved — for every domain state (holes, bounds skipping over
holes). `Assign` exactly when the bounds afterwards coincide, and some event always: these two hold by the
definition of `evAtom`. Nothing is claimed about `Removal`. -/
theorem store_events_complete (d : Asg.IDom) (a : Atom) (l pos : Nat) (hc : Asg.St.changes d a = true) :
    (Asg.Ev.lowerBound ∈ Asg.evAtom d (Asg.St.applyAtom d a l pos) a ↔ (Asg.St.applyAtom d a l pos).lb ≠ d.lb) ∧
    (Asg.Ev.upperBound ∈ Asg.evAtom d (Asg.St.applyAtom d a l pos) a ↔ (Asg.St.applyAtom d a l pos).ub ≠ d.ub) ∧
    (Asg.Ev.assign ∈ Asg.evAtom d (Asg.St.applyAtom d a l pos) a ↔
      (Asg.St.applyAtom d a l pos).lb = (Asg.St.applyAtom d a l pos).ub) ∧
    Asg.evAtom d (Asg.St.applyAtom d a l pos) a ≠ [] :=
  Asg.events_complete d a l pos hc

end Pumpkin.C01
