/-
C13 — FlatZinc models are solved according to FlatZinc semantics.

The correspondence stream turns a generated FlatZinc model into a Spec model by a table that gives
each supported builtin as a Spec constraint (`tools/cli_streams.py`; Lean does not read it, the shapes
below are copied from it); the theorems state, for the translations used there,
that they mean what the FlatZinc standard says.
Printed assignments are accepted iff they are solutions of that Spec model; with `-a` the printed
set must be the whole solution set (`checkSolSet_perm`); the unsatisfiable marker is accepted iff
the oracle finds no solution; for minimize / maximize the last printed objective value must be the
verified optimum.
-/
import Pumpkin.Spec.Basic
import Pumpkin.Check.Oracle

namespace Pumpkin.C13

def v (x : Nat) : View := ⟨1, 0, x⟩
def nv (x : Nat) : View := ⟨-1, 0, x⟩

theorem eval_v (x : Nat) (a : List Int) : (v x).eval a = val a x := View.ofVar_eval x a
theorem eval_nv (x : Nat) (a : List Int) : (nv x).eval a = - val a x := by simp [nv, View.eval]

theorem sum2 (p q : View) (a : List Int) : sumViews [p, q] a = p.eval a + q.eval a := by
  rw [sumViews_cons, sumViews_cons]; simp [sumViews]

theorem int_le_sem (x y : Nat) (a : List Int) : (Cons.linLe [v x, nv y] 0).sat a = true ↔ val a x ≤ val a y := by
  simp only [Cons.sat, sum2, eval_v, eval_nv, decide_eq_true_eq]; omega
theorem int_lt_sem (x y : Nat) (a : List Int) : (Cons.linLe [v x, nv y] (-1)).sat a = true ↔ val a x < val a y := by
  simp only [Cons.sat, sum2, eval_v, eval_nv, decide_eq_true_eq]; omega
theorem int_eq_sem (x y : Nat) (a : List Int) : (Cons.linEq [v x, nv y] 0).sat a = true ↔ val a x = val a y := by
  simp only [Cons.sat, sum2, eval_v, eval_nv, decide_eq_true_eq]; omega
theorem int_ne_sem (x y : Nat) (a : List Int) : (Cons.linNe [v x, nv y] 0).sat a = true ↔ val a x ≠ val a y := by
  simp only [Cons.sat, sum2, eval_v, eval_nv, decide_eq_true_eq]; omega
theorem int_plus_sem (x y z : Nat) (a : List Int) :
    (Cons.linEq [v x, v y, nv z] 0).sat a = true ↔ val a x + val a y = val a z := by
  simp only [Cons.sat, sumViews_cons (v x), sum2, eval_v, eval_nv, decide_eq_true_eq]; omega
/-- over 0-1 values `a + b = 1` is `a ≠ b` (bool_not, bool_xor) -/
theorem bool_not_sem (x y : Nat) (a : List Int) (hx : val a x = 0 ∨ val a x = 1)
    (hy : val a y = 0 ∨ val a y = 1) :
    (Cons.linEq [v x, v y] 1).sat a = true ↔ val a x ≠ val a y := by
  simp only [Cons.sat, sum2, eval_v, decide_eq_true_eq]; omega
/-- the 1-based FlatZinc index is the 0-based element index shifted by one -/
theorem element_index_shift (i : Nat) (a : List Int) : (View.mk 1 (-1) i).eval a = val a i - 1 := by
  simp [View.eval]; omega
/-- `set_in(x, S)` as a clause of equalities -/
theorem set_in_sem (x : Nat) (s : List Int) (a : List Int) :
    (Cons.clause (s.map (Atom.eq x))).sat a = true ↔ val a x ∈ s := by
  simp only [Cons.sat, List.any_map, List.any_eq_true, Function.comp, Atom.holds, Atom.holdsVal,
    Atom.var, decide_eq_true_eq, exists_eq_right']

theorem all_solutions_accepted (m : Model) (hd : ∀ d ∈ m.doms, d.Nodup) (ls : List (List Int))
    (h : checkSolSet m (solutions m) ls = true) : ls.Perm (solutions m) := checkSolSet_perm m hd ls h

end Pumpkin.C13
