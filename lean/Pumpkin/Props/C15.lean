/-
C15 — MaxSAT solving reports the true optimum.

The driver accepts the CLI's answer on a WCNF instance iff `checkMaxSat` holds: the printed model
satisfies the hard clauses, its falsified-soft weight equals the last `o` line, and the verified
oracle finds no cheaper hard-satisfying assignment (`maxsatOpt_spec`); `s UNSATISFIABLE` is accepted
iff the hard clauses have no model. Both pseudo-Boolean encodings are run on every instance, so they
are compared with the same optimum.
-/
import Pumpkin.Check.MaxSat

namespace Pumpkin.C15

theorem accepted_answer (m : Model) (softs : List Soft) (reported : Nat) (a : List Int)
    (h : checkMaxSat m softs reported a = true) :
    m.sat a = true ∧ softCost softs a = reported ∧ ∀ b, m.sat b = true → reported ≤ softCost softs b :=
  checkMaxSat_sound m softs reported a h

theorem optimum_spec (m : Model) (softs : List Soft) (v : Nat) :
    maxsatOpt m softs = some v ↔
      (∃ a, m.sat a = true ∧ softCost softs a = v) ∧ ∀ a, m.sat a = true → v ≤ softCost softs a :=
  maxsatOpt_spec m softs v

theorem hard_unsat_iff (m : Model) (softs : List Soft) : maxsatOpt m softs = none ↔ solutions m = [] :=
  maxsatOpt_none_iff m softs

theorem encodings_agree (m : Model) (softs : List Soft) (r₁ r₂ : Nat) (a₁ a₂ : List Int)
    (h₁ : checkMaxSat m softs r₁ a₁ = true) (h₂ : checkMaxSat m softs r₂ a₂ = true) : r₁ = r₂ := by
  obtain ⟨hs₁, hc₁, ho₁⟩ := checkMaxSat_sound m softs r₁ a₁ h₁
  obtain ⟨hs₂, hc₂, ho₂⟩ := checkMaxSat_sound m softs r₂ a₂ h₂
  exact Nat.le_antisymm (hc₂ ▸ ho₁ a₂ hs₂) (hc₁ ▸ ho₂ a₁ hs₁)

/-! ### the linear search (`maxsat/optimisation/linear_search.rs`) -/

/-- What the search relies on: after `constrain_at_most_k k` the solver answers for
"hard clauses ∧ cost ≤ k" (an error of the encoder counts as "no solution"). This is the contract of
the upper-bound encoders; the encoders themselves are not modelled. -/
structure BoundedSolve (α : Type) (hard : α → Bool) (cost : α → Nat) where
  run : Nat → Option α
  sound : ∀ k a, run k = some a → hard a = true ∧ cost a ≤ k
  complete : ∀ k, run k = none → ∀ a, hard a = true → ¬ cost a ≤ k

def linearSearch {α : Type} {hard : α → Bool} {cost : α → Nat} (s : BoundedSolve α hard cost)
    (const : Nat) : Nat → α → α
  | 0, best => best
  | fuel + 1, best =>
    if cost best = const then best
    else
      match s.run (cost best - 1) with
      | none => best
      | some a => linearSearch s const fuel a

/-- **Linear search returns an optimum**, provided the constant term is a lower bound on the cost of
every assignment satisfying the hard clauses (it is the weight of the soft clauses already falsified
at the root). -/
theorem linear_search_optimal {α : Type} {hard : α → Bool} {cost : α → Nat}
    (s : BoundedSolve α hard cost) (const : Nat) (hconst : ∀ a, hard a = true → const ≤ cost a)
    (fuel : Nat) (best : α) (hb : hard best = true) (hf : cost best ≤ fuel) :
    hard (linearSearch s const fuel best) = true ∧
      ∀ a, hard a = true → cost (linearSearch s const fuel best) ≤ cost a := by
  induction fuel generalizing best with
  | zero => exact ⟨hb, fun a _ => Nat.le_trans hf (Nat.zero_le _)⟩
  | succ fuel ih =>
    rw [linearSearch]
    by_cases hc : cost best = const
    · rw [if_pos hc]
      exact ⟨hb, fun a ha => hc ▸ hconst a ha⟩
    · rw [if_neg hc]
      cases hr : s.run (cost best - 1) with
      | none => exact ⟨hb, fun a ha => Nat.le_of_pred_lt (Nat.lt_of_not_le (s.complete _ hr a ha))⟩
      | some a' =>
        -- the answer costs at most `cost best - 1`, which the remaining fuel covers
        have hs := s.sound _ a' hr
        exact ih a' hs.1 (Nat.le_trans hs.2 (Nat.sub_le_of_le_add hf))

/-- Arithmetic only; it says nothing about the code. It alludes to a defect repaired in the Rust: the
upper-bound preprocessing added the weight of the root-true literals once per fixpoint pass, not once. -/
example : (5 : Nat) + 5 ≠ 5 := by decide

example : maxsatOpt (Model.mk [[0, 1], [0, 1]] [Cons.clause [Atom.ge 0 1, Atom.ge 1 1]])
    [⟨3, [Atom.le 0 0]⟩, ⟨2, [Atom.le 1 0]⟩, ⟨7, []⟩] = some 9 := by decide

end Pumpkin.C15
