/-
C02 — Unsatisfiable is only reported for models without solutions.

The driver accepts an `unsat` verdict (from `satisfy`, or an error returned while posting a
constraint) iff the oracle's solution list is empty; by `solutions_eq_nil_iff` that is the
statement that no assignment satisfies the model. A learned nogood is accepted iff no solution
satisfies all of its predicates.
-/
import Pumpkin.Spec.Basic
import Pumpkin.Check.Oracle
import Pumpkin.Model.SemMin
import Pumpkin.Model.RecMin
import Pumpkin.Model.PropagationCompile
import Pumpkin.Model.Search
import Pumpkin.Check.Derive

namespace Pumpkin.C02

theorem sat_verdict_sound (m : Model) (h : (solutions m).isEmpty = false) :
    ∃ a, m.sat a = true := by
  cases hs : solutions m with
  | nil => simp [hs] at h
  | cons a _ => exact ⟨a, (mem_solutions m a).1 (by simp [hs])⟩

/-- The verdict is exact: accepted `unsat` iff no solution; accepted `sat` iff some solution. -/
theorem verdict_exact (m : Model) : (solutions m).isEmpty = true ↔ ¬ ∃ a, m.sat a = true := by
  rw [List.isEmpty_iff, solutions_eq_nil_iff]; simp

/-- A posting error on constraint `i` is accepted iff the prefix model is unsatisfiable; a model
whose prefix is unsatisfiable is unsatisfiable. -/
theorem prefix_unsat (doms : List (List Int)) (cs1 cs2 : List Cons)
    (h : ∀ a, (Model.mk doms cs1).sat a = false) :
    ∀ a, (Model.mk doms (cs1 ++ cs2)).sat a = false :=
  fun a => by rw [Model.sat_append, h a, Bool.false_and]

theorem learned_nogood_sound (m : Model) (ng : List Atom)
    (h : checkNogood (solutions m) ng = true) (a : List Int) (ha : m.sat a = true) :
    ¬ ∀ p ∈ ng, p.holds a = true := checkNogood_sound m ng h a ha

/-- The semantic minimiser (`Model/SemMin.lean` mirrors `semantic_minimiser.rs`), through which every
learned nogood and every posted clause passes, preserves meaning: for every assignment within the
original domains the predicates of the input all hold iff those of the output do, and
"trivially false" is answered only when no such assignment satisfies the input. A nogood that was
implied by the model therefore stays implied, and no new nogood is invented. -/
theorem semantic_minimiser_preserves_meaning (orig : Nat → Pumpkin.SemMin.SD) (ng : List Atom) (merge : Bool)
    (a : List Int) (ha : ∀ x, (orig x).Sem (val a x)) :
    (∀ p ∈ ng, p.holds a = true) ↔
      (match Pumpkin.SemMin.minimise orig ng merge with
       | none => False
       | some out => ∀ q ∈ out, q.holds a = true) :=
  Pumpkin.SemMin.minimise_sem orig ng merge a ha

/-- The recursive minimiser (`Model/RecMin.lean` mirrors `recursive_minimiser.rs`) only removes
predicates which follow from the ones it keeps: if every reason is an implication and the reason
graph is acyclic, then in every assignment in which the minimised nogood's predicates all hold,
the original's do — for every recursion-depth limit `≥ 1` (`hlimit`; the solver's is 500, and at limit 0
the model drops a predicate whose reason is a decision outside the nogood). -/
theorem recursive_minimiser_preserves_meaning (ctx : Pumpkin.RecMin.Ctx) (ng : List Nat) (rank : Nat → Nat)
    (v : Nat → Prop) (hlimit : 0 < ctx.limit)
    (hrank : ∀ p, ∀ a ∈ (ctx.info p).reason, rank a < rank p)
    (hreason : ∀ p, (ctx.info p).isDecision = false → (∀ a ∈ (ctx.info p).reason, v a) → v p)
    (hkept : ∀ q ∈ (Pumpkin.RecMin.removeDominated ctx ng).2, v q) : ∀ p ∈ ng, v p :=
  Pumpkin.RecMin.removeDominated_sound ctx ng rank v hlimit hrank hreason hkept

/-- … and it never invents predicates. -/
theorem recursive_minimiser_subset (ctx : Pumpkin.RecMin.Ctx) (ng : List Nat) :
    ∀ q ∈ (Pumpkin.RecMin.removeDominated ctx ng).2, q ∈ ng :=
  Pumpkin.RecMin.removeDominated_sub ctx ng

/-- non-vacuity: decision 0 (level 1) implies 1 (level 1); 1 and 0 imply 2 (level 2), 2 implies 3
(level 2, the current level). -/
def exCtx (limit : Nat) : Pumpkin.RecMin.Ctx :=
  { info := fun p => match p with
      | 0 => ⟨1, true, []⟩ | 1 => ⟨1, false, [0]⟩ | 2 => ⟨2, false, [1, 0]⟩ | 3 => ⟨2, false, [2]⟩
      | _ => ⟨0, false, []⟩,
    limit := limit, curLevel := 2 }

example : (Pumpkin.RecMin.removeDominated (exCtx 500) [3, 1, 0]).2 = [3, 0] := by decide +kernel
example : (Pumpkin.RecMin.removeDominated (exCtx 1) [3, 1, 0]).2 = [3, 1, 0] := by decide +kernel
example : ∀ p, ∀ a ∈ ((exCtx 500).info p).reason, a < p := fun p =>
  match p with
  | 0 | 1 | 2 | 3 => by decide
  | _ + 4 => fun _ h => nomatch h

example : (solutions (Model.mk [[0, 1], [0, 1]]
    [Cons.linNe [⟨1, 0, 0⟩, ⟨-1, 0, 1⟩] 0, Cons.linEq [⟨1, 0, 0⟩, ⟨1, 0, 1⟩] 2])).isEmpty = true := by
  decide


/-- **An infeasibility reported while posting** (modelled by `Pg.rootFix = some none`: some
propagator pass, or the fixpoint after a posting, ends in a conflict or an empty domain) **is only
reported for models without solutions.** -/
theorem root_conflict_unsat (m : Model) (hw : ∀ c ∈ m.cons, Pg.consWf m.doms.length c)
    (hr : Pg.rootFix m.doms m.cons = some none) : solutions m = [] :=
  Pg.rootFix_conflict_unsat m hw hr

/-- … and a conflict found by propagation after any decision refutes the current domains. -/
theorem search_conflict_sound (n : Nat) (ps : List Pg.PropInst) (hw : ∀ p ∈ ps, p.Wf n) (d : Pg.Doms)
    (hl : d.length = n) (hf : Pg.fixpoint ps d = none) (a : List Int) (hin : inDoms d a = true) :
    ¬ ∀ p ∈ ps, p.cons.sat a = true :=
  Pg.fixpoint_conflict_sound ps hw d hl hf a hin

example : Pg.rootFix [[0, 1], [0, 1]] [Cons.linLe [⟨-1, 0, 0⟩, ⟨-1, 0, 1⟩] (-2), Cons.linNe [⟨1, 0, 0⟩, ⟨-1, 0, 1⟩] 0]
    = some none := by decide


/-! ### the search loop (`Model/Search.lean`: no learning, no restarts)

Tied to the real solver by the `nlsearch` records: the decisions of a real
`ConflictResolver::NoLearning` solve are replayed through the model, which must be in exactly the same
domains at every decision point (also after every backtrack) and end with the same answer. -/

/-- Whatever the decision strategy does, the model of the search loop answers `unsat` only if no
assignment within the domains it started from satisfies the constraints of all propagators (`hsw` is not used). -/
theorem nolearning_search_unsat_sound {σ : Type} (ps : List Pg.PropInst) (strat : σ → Pg.Doms → Pg.Choice σ)
    (fuel : Nat) (s : σ) (d0 : Pg.Doms) (h : Pg.search ps strat fuel s d0 [] = .unsat) (a : List Int)
    (hw : ∀ p ∈ ps, p.Wf a.length) (hsw : Pg.StratWf a.length strat) (hin : inDoms d0 a = true) :
    ¬ ∀ p ∈ ps, p.cons.sat a = true :=
  fun hsat => Pg.search_unsat_sound ps strat a hw hsat fuel s d0 [] (Or.inl ⟨d0, rfl, hin⟩) h

/-- … and `sat a` only for an assignment satisfying all of them. -/
theorem nolearning_search_sat_sound {σ : Type} (ps : List Pg.PropInst) (strat : σ → Pg.Doms → Pg.Choice σ)
    (fuel : Nat) (s : σ) (d0 : Pg.Doms) (a : List Int) (h : Pg.search ps strat fuel s d0 [] = .sat a)
    (hw : ∀ p ∈ ps, p.Wf a.length) (hpre : ∀ p ∈ ps, p.Pre a) : ∀ p ∈ ps, p.cons.sat a = true :=
  Pg.search_sat_sound ps strat a fuel s d0 [] h hw hpre

/-- **End to end**: the modelled solver (`Pg.solveNL`: post the `Spec` model at the root — decomposition
into propagators, fixpoint after each posting — then the search loop) answers `unsat` only for models
without solutions, whatever the strategy and the fuel (`hsw` is not used) … -/
theorem modelled_solver_unsat_sound {σ : Type} (m : Model) (hw : ∀ c ∈ m.cons, Pg.consWf m.doms.length c)
    (strat : σ → Pg.Doms → Pg.Choice σ) (hsw : Pg.StratWf m.doms.length strat) (fuel : Nat) (s0 : σ)
    (h : Pg.solveNL m strat fuel s0 = some .unsat) : solutions m = [] :=
  Pg.solveNL_unsat_sound m hw strat fuel s0 h

/-- … and `sat a` only for a solution of the model (C01 for the modelled solver). -/
theorem modelled_solver_sat_sound {σ : Type} (m : Model) (hw : ∀ c ∈ m.cons, Pg.consWf m.doms.length c)
    (strat : σ → Pg.Doms → Pg.Choice σ) (fuel : Nat) (s0 : σ) (a : List Int)
    (h : Pg.solveNL m strat fuel s0 = some (.sat a))
    (hpre : ∀ ps, Pg.compileAll m.doms m.cons = some ps → ∀ p ∈ ps, p.Pre a) : m.sat a = true :=
  Pg.solveNL_sat_sound m hw strat fuel s0 a h hpre

example : Pg.solveNL { doms := [[0, 1, 2], [0, 1, 2]], cons := [Cons.allDiff [⟨1, 0, 0⟩, ⟨1, 0, 1⟩], Cons.linEq [⟨1, 0, 0⟩, ⟨1, 0, 1⟩] 3] }
    (fun (s : List Atom) _ => match s with | p :: r => .decide p r | [] => .done) 5 [Atom.le 0 1] = some (.sat [1, 2]) := by decide

-- x0 + x1 ≤ 1, x0 ≠ x1 over {0,1}²: deciding x0 ≤ 0 leads to a solution; with x0 + x1 ≥ 2 added, it and its negation fail
example : Pg.search [.linLe [⟨1, 0, 0⟩, ⟨1, 0, 1⟩] 1, .linNe [⟨1, 0, 0⟩, ⟨-1, 0, 1⟩] 0]
    (fun (s : List Atom) _ => match s with | p :: r => .decide p r | [] => .done) 5 [Atom.le 0 0] [[0, 1], [0, 1]] []
    = .sat [0, 1] := by decide
example : Pg.search [.linLe [⟨1, 0, 0⟩, ⟨1, 0, 1⟩] 1, .linNe [⟨1, 0, 0⟩, ⟨-1, 0, 1⟩] 0, .linLe [⟨-1, 0, 0⟩, ⟨-1, 0, 1⟩] (-2)]
    (fun (s : List Atom) _ => match s with | p :: r => .decide p r | [] => .done) 5 [Atom.le 0 0] [[0, 1], [0, 1]] []
    = .unsat := by decide

/-! ### learned nogoods are consequences

Conflict analysis is not modelled step by step; instead every learned nogood of the recorded real
solves comes with the implications it was resolved from (the conflict, every reason handed to the
analysis — explicit, lazy or implicit —, the root facts, earlier nogoods) and must be accepted by the
verified derivation check `Derive.derivable` (domain-aware unit propagation). -/

/-- **An accepted learned nogood is a consequence of what it was derived from**: under any assignment
within the declared domains which respects every recorded implication, the predicates of the nogood
do not all hold (of `m.sat a` only the domains are used). That each recorded implication follows from the
model is judged separately, per kind: an explicit reason against the constraint of its propagator (C17), an
implicit one against `Model/ImplicitReason`, an earlier nogood by this very theorem, a reason of the nogood
propagator by the stored nogood it comes from. -/
theorem learned_nogood_is_consequence (m : Model) (g : List Derive.Impl) (ng : List Atom)
    (h : Derive.derivable m.doms g ng = true) (a : List Int) (ha : m.sat a = true)
    (hg : ∀ c ∈ g, c.respected a) : ¬ ∀ p ∈ ng, p.holds a = true :=
  Derive.derivable_sound m.doms g ng h a (Model.sat_iff.1 ha).1 hg

-- non-vacuous: x ≥ 2 → y ≤ 0, y ≤ 0 → z ≠ 1, and the conflict [z ≥ 1] ∧ [x ≥ 1] over 0..2 / 0..1 / 0..1
example : Derive.derivable [[0, 1, 2], [0, 1], [0, 1]]
    [([Atom.ge 0 2], some (Atom.le 1 0)), ([Atom.le 1 0], some (Atom.ne 2 1)), ([Atom.ge 2 1, Atom.ge 0 1], none)]
    [Atom.ge 0 2, Atom.eq 2 1] = true := by decide

end Pumpkin.C02
