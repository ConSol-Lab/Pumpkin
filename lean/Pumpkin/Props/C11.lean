/-
C11 — interrupting a solve never produces a wrong definitive answer.

Three maps `CSPSolverExecutionFlag` ↦ result, of `api/solver.rs` and `optimisation/linear_sat_unsat.rs`,
`linear_unsat_sat.rs`. The loop of linear UNSAT-SAT is not modelled: there Feasible gives Optimal,
Infeasible continues and Timeout gives Satisfiable with the solution of the first solve.
-/
import Pumpkin.Spec.Basic
import Pumpkin.Props.C04
import Pumpkin.Props.C10

namespace Pumpkin.C11

inductive Flag | feasible | infeasible | timeout deriving DecidableEq, Repr
inductive SatResult | satisfiable | unsatisfiable | unknown deriving DecidableEq, Repr
inductive OptResult | optimal | satisfiable | unsatisfiable | unknown deriving DecidableEq, Repr

/-- `Solver::satisfy`: `match self.satisfaction_solver.solve(..)` -/
def mapSatisfy : Flag → SatResult
  | .feasible => .satisfiable
  | .infeasible => .unsatisfiable
  | .timeout => .unknown

/-- `LinearSatUnsat::optimise` and `LinearUnsatSat::optimise`: the first solve, the same map in both -/
def mapFirstSolve : Flag → Option OptResult
  | .feasible => none              -- continue with the loop
  | .infeasible => some .unsatisfiable
  | .timeout => some .unknown

/-- `LinearSatUnsat::optimise` only: a solve inside its loop (an incumbent exists) -/
def mapLoopSolveLsu : Flag → Option OptResult
  | .feasible => none
  | .infeasible => some .optimal
  | .timeout => some .satisfiable

theorem timeout_never_definitive :
    mapSatisfy .timeout = .unknown ∧ mapFirstSolve .timeout = some .unknown ∧
    mapLoopSolveLsu .timeout = some .satisfiable := ⟨rfl, rfl, rfl⟩

/-- The second conjunct is about linear SAT-UNSAT alone, and about what its loop maps from a flag: it also
answers Optimal without a solve, when posting the cut fails. -/
theorem definitive_only_from_definitive (f : Flag) :
    (mapSatisfy f = .unsatisfiable → f = .infeasible) ∧
    (mapLoopSolveLsu f = some .optimal → f = .infeasible) ∧
    (mapFirstSolve f = some .unsatisfiable → f = .infeasible) := by
  cases f <;> simp [mapSatisfy, mapLoopSolveLsu, mapFirstSolve]

/-- The incumbent of linear SAT-UNSAT is a solution of the original model at every moment, so the
best-so-far solution reported after an interruption satisfies the model: interrupting = running
with less fuel. -/
theorem best_so_far_is_solution (s : C03.Solve) (obj : View) (fuel : Nat) (m : Model) (best : List Int)
    (hb : m.sat best = true) : m.sat (C04.lsu s obj fuel m best) = true :=
  (C04.lsu_spec s obj fuel m best hb).1

/-- A solve started in Ready and interrupted leaves the solver Ready (repaired code), whatever the level at
which the interruption happened. -/
theorem ready_after_timeout (atRoot : Bool) : C10.run true [.solve (.timeout atRoot)] = .ready := by
  cases atRoot <;> rfl

end Pumpkin.C11
