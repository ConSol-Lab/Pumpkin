/-
C09 — reified and half-reified constraints have implication / equivalence semantics.

`Spec` gives `implied r c` and `reif r c` their documented meaning directly; here the way the
library *builds* them (`constraints/mod.rs`, `arithmetic/*.rs`, `clause.rs`) is modelled and
proved equal to that meaning. Of the five implementations of `negation()`, `Inequality`, `Equal` and `Clause`
have a theorem here; `NotEqual` and `Conjunction`, like `Conjunction::implied_by`, are cases of
`Pg.negCons_sat` and `Pg.compileWith_sat_iff`. The general statement, for every constraint under `implied`,
`reif` and nested negation, is `Pg.compile_sat_iff`.
-/
import Pumpkin.Spec.Basic

namespace Pumpkin.C09

theorem sumViews_neg (ts : List View) (a : List Int) :
    sumViews (ts.map (·.scaled (-1))) a = - sumViews ts a := by
  induction ts with
  | nil => rfl
  | cons t ts ih =>
    rw [List.map_cons, sumViews_cons, sumViews_cons, ih, View.scaled_eval]; omega

/-- `Inequality::negation`: terms scaled by -1, rhs `-rhs - 1` -/
def negLinLe (ts : List View) (c : Int) : Cons := Cons.linLe (ts.map (·.scaled (-1))) (-c - 1)

theorem negLinLe_sat (ts : List View) (c : Int) (a : List Int) :
    (negLinLe ts c).sat a = !(Cons.linLe ts c).sat a := by
  simp only [negLinLe, Cons.sat, sumViews_neg, ← decide_not, decide_eq_decide]
  omega

/-- `EqualConstraint::post`: two inequalities -/
def equalsAsInequalities (ts : List View) (c : Int) : List Cons :=
  [Cons.linLe ts c, Cons.linLe (ts.map (·.scaled (-1))) (-c)]

theorem equals_decomposition (ts : List View) (c : Int) (a : List Int) :
    (equalsAsInequalities ts c).all (·.sat a) = (Cons.linEq ts c).sat a := by
  simp only [equalsAsInequalities, List.all_cons, List.all_nil, Bool.and_true, Cons.sat, sumViews_neg,
    ← Bool.decide_and, decide_eq_decide]
  omega

/-- `EqualConstraint::negation`: `NotEqualConstraint` with the same terms and right-hand side -/
theorem neg_eq_ne (ts : List View) (c : Int) (a : List Int) :
    (Cons.linNe ts c).sat a = !(Cons.linEq ts c).sat a := by
  simp [Cons.sat]

/-- `Clause::negation`: the `Conjunction` of the negated literals -/
theorem neg_clause_conj (ls : List Atom) (a : List Int) :
    (Cons.conj (ls.map Atom.neg)).sat a = !(Cons.clause ls).sat a := by
  simp only [Cons.sat, List.all_map, List.not_any_eq_all_not]
  exact congrArg ls.all (funext fun p => p.neg_holds a)

/-- `Clause::implied_by`: the clause extended with the negated reification literal -/
theorem clause_implied_by (r : Atom) (ls : List Atom) (a : List Int) :
    (Cons.clause (ls ++ [r.neg])).sat a = (Cons.implied r (Cons.clause ls)).sat a := by
  simp only [Cons.sat, List.any_append, List.any_cons, List.any_nil, Bool.or_false, Atom.neg_holds]
  cases r.holds a <;> simp

/-- `NegatableConstraint::reify`: `self.implied_by(r)` and `self.negation().implied_by(!r)` -/
theorem reify_decomposition (r : Atom) (c cneg : Cons) (a : List Int)
    (hneg : cneg.sat a = !c.sat a) :
    ((Cons.implied r c).sat a && (Cons.implied r.neg cneg).sat a) = (Cons.reif r c).sat a := by
  simp only [Cons.sat, Atom.neg_holds, hneg]
  cases r.holds a <;> cases c.sat a <;> rfl

theorem neg_neg_sat (c : Cons) (a : List Int) : (Cons.neg (Cons.neg c)).sat a = c.sat a := by
  simp [Cons.sat]

/-- This speaks of assignments, not of the status of `r` in the state in which the constraint is posted: for that
see `Pg.rootFix_sound`. -/
theorem implied_cases (r : Atom) (c : Cons) (a : List Int) :
    (r.holds a = false → (Cons.implied r c).sat a = true) ∧
    (r.holds a = true → (Cons.implied r c).sat a = c.sat a) := by
  simp only [Cons.sat]
  constructor <;> intro h <;> simp [h]

end Pumpkin.C09
