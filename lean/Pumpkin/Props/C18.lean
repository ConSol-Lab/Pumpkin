/-
C18 — built-in branchers propose only undecided decisions.

For each of the 14 value selectors (`Model/Branching.lean` mirrors `branching/value_selection/*.rs`
with the random draws as arguments) and every domain with at least two values — any shape: holes,
negative values, exactly two values — the proposed decision is undecided: some value of the domain
satisfies it and some value falsifies it. The correspondence check compares the decision the real
selector makes during real solves with the model's support on the observed domain.
-/
import Pumpkin.Model.Branching
import Pumpkin.Model.AssignmentsEval

namespace Pumpkin.C18
open Pumpkin.Branching

theorem value_selectors_undecided (x : Nat) (vs : List Int) (hs : Sorted vs) (h2 : 2 ≤ vs.length)
    (coin : Bool) (i : Nat) (hi : i < vs.length) (r : Int) (hr : lbOf vs ≤ r ∧ r ≤ ubOf vs) :
    Undecided vs (inDomainMin x vs) ∧ Undecided vs (inDomainMax x vs) ∧
    Undecided vs (outDomainMin x vs) ∧ Undecided vs (outDomainMax x vs) ∧
    Undecided vs (inDomainSplit x vs) ∧ Undecided vs (reverseInDomainSplit x vs) ∧
    Undecided vs (inDomainSplitRandom x vs coin) ∧ Undecided vs (randomSplitter x vs r coin) ∧
    Undecided vs (inDomainInterval x vs) ∧ Undecided vs (inDomainMedian x vs) ∧
    Undecided vs (outDomainMedian x vs) ∧ Undecided vs (inDomainRandom x vs i) ∧
    Undecided vs (outDomainRandom x vs i) ∧ Undecided vs (inDomainMiddle x vs) :=
  ⟨inDomainMin_undecided x hs h2, inDomainMax_undecided x hs h2, outDomainMin_undecided x hs h2,
   outDomainMax_undecided x hs h2, inDomainSplit_undecided x hs h2,
   reverseInDomainSplit_undecided x hs h2, inDomainSplitRandom_undecided x coin hs h2,
   randomSplitter_undecided x r coin hs h2 hr, inDomainInterval_undecided x hs h2,
   inDomainMedian_undecided x hs h2, outDomainMedian_undecided x hs h2,
   inDomainRandom_undecided x i hi hs h2, outDomainRandom_undecided x i hi hs h2,
   inDomainMiddle_undecided x hs h2⟩

/-- The decision is over the variable the selector was asked about (13 of the 14 selectors: `inDomainInterval`, the
one defined by a `match`, is not in the statement). -/
theorem decision_var (x : Nat) (vs : List Int) (coin : Bool) (i : Nat) (r : Int) :
    (inDomainMin x vs).var = x ∧ (inDomainMax x vs).var = x ∧ (outDomainMin x vs).var = x ∧
    (outDomainMax x vs).var = x ∧ (inDomainSplit x vs).var = x ∧
    (reverseInDomainSplit x vs).var = x ∧ (inDomainSplitRandom x vs coin).var = x ∧
    (randomSplitter x vs r coin).var = x ∧ (inDomainMedian x vs).var = x ∧
    (outDomainMedian x vs).var = x ∧ (inDomainRandom x vs i).var = x ∧
    (outDomainRandom x vs i).var = x ∧ (inDomainMiddle x vs).var = x := by
  refine ⟨rfl, rfl, rfl, rfl, rfl, rfl, ?_, ?_, rfl, rfl, rfl, rfl, rfl⟩
  · simp only [inDomainSplitRandom, apply_ite Atom.var]; simp only [Atom.var, ite_self]
  · simp only [randomSplitter, apply_ite Atom.var]; simp only [Atom.var, ite_self]

/-- Before `fix: InDomainSplitRandom …` the `>=` branch used the split point itself: on a two-value
domain that is `[x >= lb]`, true already. -/
theorem split_random_old_code_decided (x : Nat) (lb : Int) :
    ¬ Undecided [lb, lb + 1] (Atom.ge x (splitPoint [lb, lb + 1])) :=
  inDomainSplitRandom_unfixed_decided x lb

/-- Non-vacuity: a sparse domain with negative values and holes at the bounds. -/
example : Sorted [-5, -2, -1, 3] := ⟨by decide, by decide, by decide, trivial⟩
example : 2 ≤ [-5, -2, -1, 3].length ∧
    inDomainMiddle 0 [-5, -2, -1, 3] = Atom.eq 0 (-1) ∧
    inDomainInterval 0 [-5, -2, -1, 3] = Atom.le 0 (-5) ∧
    inDomainMedian 0 [-5, -2, -1, 3] = Atom.eq 0 (-1) := by decide

/-- What "currently neither true nor false" means in the solver: `evaluate_predicate` of the domain
store (`Model/Assignments.lean`, tied to the real `Assignments` by the `asg` correspondence) answers
`None` for a predicate over a non-empty domain **iff** some value of the domain satisfies it and some
value does not — in every state reachable by any sequence of store operations. -/
theorem undecided_iff_evaluate_none (ops : List Asg.St.Op) (p : Atom)
    (hx : p.var < (Asg.St.run Asg.St.empty ops).doms.length)
    (hne : (Asg.St.run Asg.St.empty ops).lb p.var ≤ (Asg.St.run Asg.St.empty ops).ub p.var) :
    (Asg.St.run Asg.St.empty ops).evaluate p = none ↔
      (∃ v, (Asg.St.run Asg.St.empty ops).contains p.var v = true ∧ p.holdsVal v = true) ∧
      (∃ v, (Asg.St.run Asg.St.empty ops).contains p.var v = true ∧ p.holdsVal v = false) :=
  Asg.evaluate_none_iff ops p hx hne

end Pumpkin.C18
