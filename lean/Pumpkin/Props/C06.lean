/-
C06 — emitted DRCP proofs are valid certificates.

The theorems are about the verified checker `DrcpCheck.checkDrcp`, which
is what judges every proof file the solver writes in the correspondence run. The improvement axioms
`[obj ≤ best-1]` that the solver adds after each solution are the only steps not implied by the model,
and the concluded bound must be the strongest of them + 1.

The reading of the two files into steps and literal definitions is the repo's own reader
(harness) plus `Model/Drcp.parse` (driver); C19 proves that model reader inverse to the writer.
-/
import Pumpkin.Check.DrcpCheck

namespace Pumpkin.C06
open Pumpkin.Drcp Pumpkin.DrcpCheck

theorem unsat_certificate (m : Model) (nd : Nat) (lits : List (Nat × Atom)) (obj : Obj) (steps : List Step)
    (h : checkDrcp m nd lits obj steps = .unsat) : ∀ a, m.sat a = false :=
  checkDrcp_unsat_sound m nd lits obj steps h

theorem optimal_certificate_min (m : Model) (nd : Nat) (lits : List (Nat × Atom)) (x : Nat) (steps : List Step)
    (b : Int) (h : checkDrcp m nd lits (.minimise x) steps = .bound b) :
    ∀ a, m.sat a = true → b ≤ val a x :=
  checkDrcp_bound_sound_min m nd lits x steps b h

theorem optimal_certificate_max (m : Model) (nd : Nat) (lits : List (Nat × Atom)) (x : Nat) (steps : List Step)
    (b : Int) (h : checkDrcp m nd lits (.maximise x) steps = .bound b) :
    ∀ a, m.sat a = true → val a x ≤ b :=
  checkDrcp_bound_sound_max m nd lits x steps b h

/-- In a satisfaction proof there are no improvement axioms, so every accepted nogood is implied by
the model alone. -/
theorem accepted_nogoods_implied (m : Model) (nd : Nat) (lits : List (Nat × Atom)) (steps : List Step) (st : St)
    (h : runSteps m nd lits .none {} steps = some st) :
    ∀ e ∈ st.nogoods, ∀ a, m.sat a = true → e.2.any (·.holds a) = true := by
  intro e he a ha
  -- with objective `none` the `Good` assignments are exactly the solutions, whatever `axs` is
  exact ((inv_final h).2.2.1 e he).2 a ⟨ha, trivial⟩

/-- An accepted inference tagged `t` follows from constraint `t` and the definitions of literals within the
declared domains; the statement does not tie `conclA` to `prop`. -/
theorem inference_follows_from_its_constraint (m : Model) (nd : Nat) (lits : List (Nat × Atom)) (obj : Obj)
    (st st' : St) (id : Nat) (prem : List Int) (prop : Option Int) (t : Nat) (label : Option String)
    (h : stepCheck m nd lits obj st (.inference id prem prop (some t) label) = some st') :
    ∃ (c : Cons) (premA : List Atom) (conclA : Option Atom), m.cons[t - 1]? = some c ∧ t ≠ 0 ∧ atomsOfCodes lits prem = some premA ∧
      ∀ a, inDoms m.doms a = true → (∀ d ∈ defsOf m nd, d.sat a = true) → c.sat a = true →
        (∀ p ∈ premA, p.holds a = true) →
        (match conclA with | some q => q.holds a = true | none => False) := by
  obtain ⟨premA, conclA, _, hp, _, _, hj, _⟩ := stepCheck_inference h
  cases hj with
  | tagged ht hc hchk => exact ⟨_, premA, conclA, hc, ht, hp, (checkInferenceD_iff m.doms _ _ premA conclA).1 hchk⟩

/-- Without literals of predicates (`nd = 0`) the tagged constraint alone entails `premA → conclA`. -/
theorem inference_follows_from_its_constraint_plain (m : Model) (lits : List (Nat × Atom)) (obj : Obj)
    (st st' : St) (id : Nat) (prem : List Int) (prop : Option Int) (t : Nat) (label : Option String)
    (h : stepCheck m 0 lits obj st (.inference id prem prop (some t) label) = some st') :
    ∃ (c : Cons) (premA : List Atom) (conclA : Option Atom), m.cons[t - 1]? = some c ∧ t ≠ 0 ∧ atomsOfCodes lits prem = some premA ∧
      ∀ a, inDoms m.doms a = true → c.sat a = true → (∀ p ∈ premA, p.holds a = true) →
        (match conclA with | some q => q.holds a = true | none => False) := by
  obtain ⟨c, premA, conclA, h1, h2, h3, h4⟩ := inference_follows_from_its_constraint m 0 lits obj st st' id prem prop t label h
  refine ⟨c, premA, conclA, h1, h2, h3, fun a hd hc hp => h4 a hd ?_ hc hp⟩
  rw [defsOf_zero]
  intro d hd'
  cases hd'

/-- `UNSAT` is never accepted unless the empty nogood was derived by an accepted step. -/
theorem conclusion_needs_empty_nogood (m : Model) (nd : Nat) (lits : List (Nat × Atom)) (obj : Obj)
    (steps : List Step) (st : St) (hr : runSteps m nd lits obj {} steps = some st)
    (hs : st.sawEmpty = false) : checkDrcp m nd lits obj steps ≠ .unsat := by
  intro h
  obtain ⟨st', hr', hs', _⟩ := checkDrcp_unsat h
  cases hr.symm.trans hr'
  exact Bool.false_ne_true (hs.symm.trans hs')

/-! Non-vacuity: the model `x0 + x1 ≤ 0`, `x0 ≥ 1` (written `-x0 ≤ -1`) over `{0,1}²` has no solution,
and the following proof (in the solver's own shape: root propagation as inference + unit nogood, then
the conflict inference and the empty nogood) is accepted. -/
def exModel : Model :=
  Model.mk [[0, 1], [0, 1]]
    [Cons.linLe [⟨1, 0, 0⟩, ⟨1, 0, 1⟩] 0, Cons.linLe [⟨-1, 0, 0⟩] (-1)]

def exLits : List (Nat × Atom) := [(1, Atom.ge 0 1)]

def exProof : List Step :=
  [ .inference 1 [-1] none (some 2) none,      -- ¬[x0 ≥ 1] → false   (constraint 2)
    .nogood 2 [1] (some [1]),                  -- [x0 ≥ 1]
    .inference 3 [1] none (some 1) none,       -- [x0 ≥ 1] → false    (constraint 1)
    .nogood 4 [] (some [2, 3]),                -- empty nogood from steps 2 and 3
    .unsat ]

example : checkDrcp exModel 0 exLits .none exProof = .unsat := by decide +kernel

/-- dropping the hint to the unit nogood makes the last nogood underivable -/
example : checkDrcp exModel 0 exLits .none
    [ .inference 1 [-1] none (some 2) none, .nogood 2 [1] (some [1]),
      .inference 3 [1] none (some 1) none, .nogood 4 [] (some [3]), .unsat ] = .rejected := by
  decide +kernel

/-- an inference tagged with the wrong constraint is rejected -/
example : checkDrcp exModel 0 exLits .none
    [ .inference 1 [-1] none (some 1) none, .nogood 2 [1] (some [1]), .unsat ] = .rejected := by
  decide +kernel

/-! A literal of a predicate: `x0 ∈ 0..3`, `x1 ∈ {0,1}` defined as `[x0 ≥ 2]` (first constraint),
constraint 2 `x1 ≥ 1`, constraint 3 `x0 ≤ 1`. The solver writes `[x0 ≥ 2]` for `[x1 ≥ 1]`: the
inference `¬[x0 ≥ 2] → false` tagged with constraint 2 is accepted given the definition, and
rejected when the definition is not declared. -/
def exModelD : Model :=
  Model.mk [[0, 1, 2, 3], [0, 1]]
    [Cons.reif (Atom.ge 1 1) (Cons.linLe [⟨-1, 0, 0⟩] (-2)),
     Cons.linLe [⟨-1, 0, 1⟩] (-1), Cons.linLe [⟨1, 0, 0⟩] 1]

def exProofD : List Step :=
  [ .inference 1 [-1] none (some 2) none, .nogood 2 [1] (some [1]),
    .inference 3 [1] none (some 3) none, .nogood 4 [] (some [2, 3]), .unsat ]

example : (defsOf exModelD 1).all (isDef exModelD.doms) = true := by decide +kernel
example : checkDrcp exModelD 1 [(1, Atom.ge 0 2)] .none exProofD = .unsat := by decide +kernel
example : checkDrcp exModelD 0 [(1, Atom.ge 0 2)] .none exProofD = .rejected := by decide +kernel
/-- the negated predicate written for the literal is rejected -/
example : checkDrcp exModelD 1 [(1, Atom.ge 0 2)] .none
    [ .inference 1 [1] none (some 2) none, .nogood 2 [-1] (some [1]), .unsat ] = .rejected := by
  decide +kernel

end Pumpkin.C06
