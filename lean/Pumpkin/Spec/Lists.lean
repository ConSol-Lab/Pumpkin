/-
Facts about lists: the unit rule both RUP checkers and the clause propagator apply, folds with `min` and `max`,
and sums (`sumL`, the shape in which `sumViews`, `sumLb`, `loadAt`, `heightAt` are all written).
-/
namespace Pumpkin

/-- The unit rule: `live` marks the literals that are not false, `P` those true under the assignment at hand.
`xs.all (· == x)` and not `xs = []`: a clause that repeats its one live literal (`x ∨ x`) is unit. -/
theorem unit_rule {α : Type} [BEq α] [LawfulBEq α] {c : List α} {live : α → Bool} {P : α → Prop} {l : α}
    (hl : l ∈ c) (hlive : live l = true) (hP : P l) :
    ∃ x xs, c.filter live = x :: xs ∧ (xs.all (· == x) = true → P x) := by
  have hm : l ∈ c.filter live := List.mem_filter.2 ⟨hl, hlive⟩
  cases hf : c.filter live with
  | nil => rw [hf] at hm; cases hm
  | cons x xs =>
    refine ⟨x, xs, rfl, fun hall => ?_⟩
    rw [hf] at hm
    cases hm with
    | head => exact hP
    | tail _ h => exact eq_of_beq (List.all_eq_true.1 hall l h) ▸ hP

theorem foldl_min_spec (l : List Int) (k : Int) : l.foldl min k ∈ k :: l ∧ ∀ v ∈ k :: l, l.foldl min k ≤ v :=
  List.min?_eq_some_iff.1 List.min?_cons'

theorem foldl_max_spec (l : List Int) (k : Int) : l.foldl max k ∈ k :: l ∧ ∀ v ∈ k :: l, v ≤ l.foldl max k :=
  List.max?_eq_some_iff.1 List.max?_cons'

end Pumpkin

namespace Pumpkin.Pg

def sumL (l : List Int) : Int := l.foldl (· + ·) 0

@[simp] theorem sumL_nil : sumL [] = 0 := rfl
@[simp] theorem sumL_cons (x : Int) (xs : List Int) : sumL (x :: xs) = x + sumL xs := by
  simp only [sumL, ← List.sum_eq_foldl, List.sum_cons]

theorem sumL_map_le {α : Type} (l : List α) (f g : α → Int) (h : ∀ j ∈ l, f j ≤ g j) :
    sumL (l.map f) ≤ sumL (l.map g) := by
  induction l with
  | nil => exact Int.le_refl _
  | cons j r ih =>
    simp only [List.map_cons, sumL_cons]
    exact Int.add_le_add (h j (by simp)) (ih fun x hx => h x (by simp [hx]))

theorem sumL_map_add_le {α : Type} (l : List α) (f g : α → Int) {k : α} (hk : k ∈ l) (c : Int)
    (h : ∀ j ∈ l, f j ≤ g j) (hkc : f k + c ≤ g k) : sumL (l.map f) + c ≤ sumL (l.map g) := by
  induction l with
  | nil => cases hk
  | cons j r ih =>
    have hr : ∀ x ∈ r, f x ≤ g x := fun x hx => h x (List.mem_cons_of_mem _ hx)
    simp only [List.map_cons, sumL_cons]
    rcases List.mem_cons.1 hk with rfl | hk
    · rw [Int.add_right_comm]; exact Int.add_le_add hkc (sumL_map_le r f g hr)
    · rw [Int.add_assoc]; exact Int.add_le_add (h j (List.mem_cons_self ..)) (ih hk hr)

theorem sumL_map_zero {α : Type} (l : List α) : sumL (l.map fun _ => (0 : Int)) = 0 := by
  induction l with
  | nil => rfl
  | cons j r ih => simp only [List.map_cons, sumL_cons, ih]; rfl

end Pumpkin.Pg
