/-
The documented meaning of `cumulative` (at every integer time point the usages of the running tasks sum to at
most the capacity) against the executable test of `Cons.sat` (the load at the start of every task). The two
theorems which `Props/C08.lean` restates stand here so that the propagator models can use them.
-/
import Pumpkin.Spec.Basic
import Pumpkin.Spec.Lists

namespace Pumpkin.CumSem

def runs (k : Task) (a : List Int) (t : Int) : Prop := k.start.eval a ≤ t ∧ t < k.start.eval a + k.dur

instance (k : Task) (a : List Int) (t : Int) : Decidable (runs k a t) := by unfold runs; infer_instance

def contrib (k : Task) (a : List Int) (t : Int) : Int := if runs k a t then k.use else 0

theorem loadAt_eq (ts : List Task) (a : List Int) (t : Int) :
    loadAt ts a t = Pg.sumL (ts.map fun k => contrib k a t) := rfl

theorem loadAt_cons (k : Task) (ts : List Task) (a : List Int) (t : Int) :
    loadAt (k :: ts) a t = contrib k a t + loadAt ts a t := by
  rw [loadAt_eq, loadAt_eq, List.map_cons, Pg.sumL_cons]

theorem loadAt_nil (a : List Int) (t : Int) : loadAt [] a t = 0 := rfl

theorem contrib_nonneg {k : Task} (hu : 0 ≤ k.use) (a : List Int) (t : Int) : 0 ≤ contrib k a t := by
  unfold contrib; split <;> omega

theorem loadAt_nonneg (ts : List Task) (a : List Int) (t : Int) (hu : ∀ k ∈ ts, 0 ≤ k.use) :
    0 ≤ loadAt ts a t := by
  have := Pg.sumL_map_le ts (fun _ => 0) (contrib · a t) fun k hk => contrib_nonneg (hu k hk) a t
  rwa [Pg.sumL_map_zero] at this

theorem loadAt_mono (ts : List Task) (a : List Int) (t s : Int) (hu : ∀ k ∈ ts, 0 ≤ k.use)
    (h : ∀ k ∈ ts, runs k a t → runs k a s) : loadAt ts a t ≤ loadAt ts a s :=
  Pg.sumL_map_le ts (contrib · a t) (contrib · a s) fun k hk => by
    unfold contrib
    split
    · rw [if_pos (h k hk ‹_›)]; exact Int.le_refl _
    · exact contrib_nonneg (hu k hk) a s

theorem loadAt_zero (ts : List Task) (a : List Int) (t : Int) (h : ∀ k ∈ ts, ¬ runs k a t) :
    loadAt ts a t = 0 := by
  rw [loadAt_eq, List.map_congr_left (g := fun _ => 0) fun k hk => show contrib k a t = 0 from if_neg (h k hk),
    Pg.sumL_map_zero]

theorem exists_latest (ts : List Task) (a : List Int) (t : Int) (h : ∃ k ∈ ts, runs k a t) :
    ∃ k ∈ ts, runs k a t ∧ ∀ k' ∈ ts, runs k' a t → k'.start.eval a ≤ k.start.eval a := by
  obtain ⟨k₀, hk₀, hr₀⟩ := h
  -- the greatest start among the running tasks
  have hmem : ∀ k, k ∈ ts.filter (fun k => decide (runs k a t)) ↔ k ∈ ts ∧ runs k a t := by
    simp [List.mem_filter]
  have hstart : ∀ k ∈ ts, runs k a t →
      k.start.eval a ∈ (ts.filter (fun k => decide (runs k a t))).map (·.start.eval a) :=
    fun k hk hr => List.mem_map.2 ⟨k, (hmem k).2 ⟨hk, hr⟩, rfl⟩
  obtain ⟨v, hv⟩ := Option.isSome_iff_exists.1 (List.isSome_max?_of_mem (hstart k₀ hk₀ hr₀))
  obtain ⟨hvm, hmax⟩ := List.max?_eq_some_iff.1 hv
  obtain ⟨k, hk, rfl⟩ := List.mem_map.1 hvm
  exact ⟨k, ((hmem k).1 hk).1, ((hmem k).1 hk).2, fun k' hk' hr' => hmax _ (hstart k' hk' hr')⟩

theorem cumulative_sat_iff (ts : List Task) (cap : Int) (a : List Int) (hu : ∀ k ∈ ts, 0 ≤ k.use) :
    (Cons.cumulative ts cap).sat a = true ↔ ∀ t : Int, loadAt ts a t ≤ cap := by
  show (ts.all (fun k => decide (loadAt ts a (k.start.eval a) ≤ cap)) && decide (0 ≤ cap)) = true ↔ _
  simp only [Bool.and_eq_true, List.all_eq_true, decide_eq_true_eq]
  constructor
  · rintro ⟨hstart, hcap⟩ t
    by_cases hex : ∃ k ∈ ts, runs k a t
    · -- whatever runs at `t` still runs at the latest start among these tasks
      obtain ⟨k, hk, hr, hmax⟩ := exists_latest ts a t hex
      exact Int.le_trans
        (loadAt_mono ts a t _ hu fun k' hk' hr' => ⟨hmax k' hk' hr', Int.lt_of_le_of_lt hr.1 hr'.2⟩) (hstart k hk)
    · rw [loadAt_zero ts a t (fun k hk hr => hex ⟨k, hk, hr⟩)]; exact hcap
  · exact fun h => ⟨fun k _ => h _, Int.le_trans (loadAt_nonneg ts a 0 hu) (h 0)⟩

theorem loadAt_filter (ts : List Task) (a : List Int) (t : Int) (p : Task → Bool)
    (h : ∀ k ∈ ts, p k = false → contrib k a t = 0) : loadAt (ts.filter p) a t = loadAt ts a t := by
  induction ts with
  | nil => rfl
  | cons k ts ih =>
    have ih := ih fun k' hk' => h k' (List.mem_cons_of_mem _ hk')
    cases hp : p k with
    | true => rw [List.filter_cons_of_pos hp, loadAt_cons, loadAt_cons, ih]
    | false =>
      rw [List.filter_cons_of_neg (by simp [hp]), loadAt_cons, ih, h k (List.mem_cons_self ..) hp, Int.zero_add]

theorem loadAt_drop_zero (ts : List Task) (a : List Int) (t : Int) :
    loadAt (ts.filter (fun k => decide (0 < k.use) && decide (0 < k.dur))) a t = loadAt ts a t ∨
    ∃ k ∈ ts, k.use < 0 := by
  by_cases hneg : ∃ k ∈ ts, k.use < 0
  · exact .inr hneg
  · refine .inl (loadAt_filter ts a t _ fun k hk hp => ?_)
    -- usage zero, or no time point inside a non-positive duration
    have hu : 0 ≤ k.use := Int.not_lt.1 fun h => hneg ⟨k, hk, h⟩
    simp only [Bool.and_eq_false_iff, decide_eq_false_iff_not] at hp
    exact ite_eq_right_iff.2 fun hr => by unfold runs at hr; omega

end Pumpkin.CumSem
