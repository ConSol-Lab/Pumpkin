/-
Specification layer: the documented meaning of Pumpkin models.

* variables are natural numbers (index into the assignment), an assignment is a `List Int`
  (reads outside the list give 0; the model-level predicate `inDoms` fixes the length),
* atomic predicates mirror `engine/predicates/predicate.rs` (`[x >= v]`, `[x <= v]`, `[x != v]`,
  `[x == v]`),
* a view is `scale * x + offset` (`engine/variables/affine_view.rs`); a literal is an atomic
  predicate on a 0-1 variable (`Literal::get_true_predicate`),
* `Cons` carries one constructor per documented constraint of `pumpkin_solver::constraints`,
  with the meaning stated in the doc comment of the constructor function.
-/
import Pumpkin.Spec.Lists

namespace Pumpkin

def val (a : List Int) (x : Nat) : Int := a.getD x 0

inductive Atom where
  | ge (x : Nat) (v : Int)
  | le (x : Nat) (v : Int)
  | ne (x : Nat) (v : Int)
  | eq (x : Nat) (v : Int)
deriving DecidableEq, Repr, Inhabited

namespace Atom

def var : Atom → Nat
  | ge x _ | le x _ | ne x _ | eq x _ => x

def bound : Atom → Int
  | ge _ v | le _ v | ne _ v | eq _ v => v

def holdsVal : Atom → Int → Bool
  | ge _ v, z => decide (v ≤ z)
  | le _ v, z => decide (z ≤ v)
  | ne _ v, z => decide (z ≠ v)
  | eq _ v, z => decide (z = v)

def holds (p : Atom) (a : List Int) : Bool := p.holdsVal (val a p.var)

/-- Mirrors `impl Not for Predicate`. -/
def neg : Atom → Atom
  | ge x v => le x (v - 1)
  | le x v => ge x (v + 1)
  | ne x v => eq x v
  | eq x v => ne x v

@[simp] theorem neg_var (p : Atom) : p.neg.var = p.var := by cases p <;> rfl

theorem neg_holdsVal (p : Atom) (z : Int) : p.neg.holdsVal z = !p.holdsVal z := by
  cases p <;> simp only [neg, holdsVal, ← decide_not, decide_eq_decide] <;> omega

theorem neg_holds (p : Atom) (a : List Int) : p.neg.holds a = !p.holds a := by
  simp [holds, neg_holdsVal]

theorem neg_neg (p : Atom) : p.neg.neg = p := by
  cases p <;> simp only [neg, Int.add_sub_cancel, Int.sub_add_cancel]

end Atom

structure View where
  scale : Int
  offset : Int
  var : Nat
deriving DecidableEq, Repr, Inhabited

namespace View
def eval (w : View) (a : List Int) : Int := w.scale * val a w.var + w.offset
def ofVar (x : Nat) : View := ⟨1, 0, x⟩
def scaled (w : View) (k : Int) : View := ⟨w.scale * k, w.offset * k, w.var⟩
def offsetBy (w : View) (k : Int) : View := ⟨w.scale, w.offset + k, w.var⟩

theorem ofVar_eval (x : Nat) (a : List Int) : (ofVar x).eval a = val a x := by
  simp [ofVar, eval]

theorem scaled_eval (w : View) (k : Int) (a : List Int) : (w.scaled k).eval a = k * w.eval a := by
  simp only [scaled, eval]
  rw [Int.mul_add, Int.mul_comm w.scale k, Int.mul_assoc, Int.mul_comm w.offset k]

theorem offsetBy_eval (w : View) (k : Int) (a : List Int) : (w.offsetBy k).eval a = w.eval a + k := by
  simp only [offsetBy, eval]; omega

theorem scaled_one (w : View) : w.scaled 1 = w := by
  cases w; simp [scaled]
end View

structure Task where
  start : View
  dur : Int
  use : Int
deriving DecidableEq, Repr, Inhabited

def sumViews (ts : List View) (a : List Int) : Int := (ts.map (·.eval a)).foldl (· + ·) 0

theorem sumViews_cons (t : View) (ts : List View) (a : List Int) :
    sumViews (t :: ts) a = t.eval a + sumViews ts a :=
  Pg.sumL_cons _ _  -- `sumViews ts a` is `Pg.sumL (ts.map (·.eval a))` by definition

def pairwiseNe : List Int → Bool
  | [] => true
  | x :: xs => xs.all (fun y => decide (x ≠ y)) && pairwiseNe xs

def loadAt (ts : List Task) (a : List Int) (t : Int) : Int :=
  (ts.map (fun k => if k.start.eval a ≤ t ∧ t < k.start.eval a + k.dur then k.use else 0)).foldl (· + ·) 0

inductive Cons where
  /-- `Σ ts ≤ c` (`less_than_or_equals`) -/
  | linLe (ts : List View) (c : Int)
  /-- `Σ ts = c` (`equals`) -/
  | linEq (ts : List View) (c : Int)
  /-- `Σ ts ≠ c` (`not_equals`) -/
  | linNe (ts : List View) (c : Int)
  /-- `a * b = c` (`times`) -/
  | times (a b c : View)
  /-- `n / d = r` with truncating division, `d ≠ 0` (`division`) -/
  | div (n d r : View)
  /-- `|s| = a` (`absolute`) -/
  | abs (s a : View)
  /-- `max xs = r` (`maximum`) -/
  | max (xs : List View) (r : View)
  /-- `min xs = r` (`minimum`) -/
  | min (xs : List View) (r : View)
  /-- `xs[i] = r`, zero-indexed (`element`) -/
  | element (i : View) (xs : List View) (r : View)
  /-- pairwise distinct (`all_different`) -/
  | allDiff (xs : List View)
  /-- at every time point the usage of running tasks is at most `cap` (`cumulative`) -/
  | cumulative (ts : List Task) (cap : Int)
  /-- disjunction of atomic predicates (`add_clause`, `clause`) -/
  | clause (ls : List Atom)
  /-- conjunction of atomic predicates (`conjunction`) -/
  | conj (ls : List Atom)
  /-- `r → c` (`implied_by`) -/
  | implied (r : Atom) (c : Cons)
  /-- `r ↔ c` (`reify`) -/
  | reif (r : Atom) (c : Cons)
  /-- complement (`negation()`) -/
  | neg (c : Cons)
deriving Repr, Inhabited

namespace Cons

def sat (a : List Int) : Cons → Bool
  | linLe ts c => decide (sumViews ts a ≤ c)
  | linEq ts c => decide (sumViews ts a = c)
  | linNe ts c => decide (sumViews ts a ≠ c)
  | times x y z => decide (x.eval a * y.eval a = z.eval a)
  | div n d r => decide (d.eval a ≠ 0) && decide (Int.tdiv (n.eval a) (d.eval a) = r.eval a)
  | abs s r => decide ((s.eval a).natAbs = r.eval a)
  | max xs r => xs.all (fun x => decide (x.eval a ≤ r.eval a)) && xs.any (fun x => decide (x.eval a = r.eval a))
  | min xs r => xs.all (fun x => decide (r.eval a ≤ x.eval a)) && xs.any (fun x => decide (x.eval a = r.eval a))
  | element i xs r =>
      decide (0 ≤ i.eval a) &&
        (match xs[(i.eval a).toNat]? with
         | some x => decide (x.eval a = r.eval a)
         | none => false)
  | allDiff xs => pairwiseNe (xs.map (·.eval a))
  -- tests the start of every task only: when no usage is negative, the load at any time point is at most the
  -- load at some start, or is 0 (hence `0 ≤ cap`): `CumSem.cumulative_sat_iff`
  | cumulative ts cap => ts.all (fun k => decide (loadAt ts a (k.start.eval a) ≤ cap))
                          && decide (0 ≤ cap)
  | clause ls => ls.any (·.holds a)
  | conj ls => ls.all (·.holds a)
  | implied r c => !r.holds a || c.sat a
  | reif r c => r.holds a == c.sat a
  | neg c => !c.sat a

theorem implied_sat_iff (r : Atom) (c : Cons) (a : List Int) :
    (implied r c).sat a = true ↔ (r.holds a = true → c.sat a = true) := by
  rw [show (implied r c).sat a = (!r.holds a || c.sat a) from rfl]
  cases r.holds a <;> simp

end Cons

structure Model where
  /-- declared domain of each variable: the list of its values -/
  doms : List (List Int)
  cons : List Cons
deriving Repr, Inhabited

/-- `a` gives every variable a value from its declared domain (and nothing else). -/
def inDoms : List (List Int) → List Int → Bool
  | [], [] => true
  | d :: ds, v :: vs => d.contains v && inDoms ds vs
  | _, _ => false

def Model.sat (m : Model) (a : List Int) : Bool :=
  inDoms m.doms a && m.cons.all (·.sat a)

theorem Model.sat_iff {m : Model} {a : List Int} :
    m.sat a = true ↔ inDoms m.doms a = true ∧ ∀ c ∈ m.cons, c.sat a = true := by
  simp only [Model.sat, Bool.and_eq_true, List.all_eq_true]

theorem Model.sat_append (d : List (List Int)) (cs₁ cs₂ : List Cons) (a : List Int) :
    (Model.mk d (cs₁ ++ cs₂)).sat a = ((Model.mk d cs₁).sat a && cs₂.all (·.sat a)) := by
  simp only [Model.sat, List.all_append, Bool.and_assoc]

/-- Cartesian product of the declared domains, in lexicographic order of the listed values. -/
def product : List (List Int) → List (List Int)
  | [] => [[]]
  | d :: ds => d.flatMap (fun v => (product ds).map (fun vs => v :: vs))

/-- Verified brute-force oracle: all solutions of a finite-domain model. -/
def solutions (m : Model) : List (List Int) :=
  (product m.doms).filter (fun a => m.cons.all (·.sat a))

theorem mem_product (ds : List (List Int)) (a : List Int) : a ∈ product ds ↔ inDoms ds a = true := by
  induction ds generalizing a with
  | nil => cases a <;> simp [product, inDoms]
  | cons d ds ih =>
    cases a with
    | nil => simp [product, inDoms]
    | cons v vs =>
      simp only [product, List.mem_flatMap, List.mem_map, inDoms, Bool.and_eq_true,
        List.contains_iff_mem, ih, List.cons.injEq, exists_eq_right_right]

theorem mem_solutions (m : Model) (a : List Int) : a ∈ solutions m ↔ m.sat a = true := by
  simp [solutions, Model.sat, mem_product]

theorem solutions_eq_nil_iff (m : Model) : solutions m = [] ↔ ∀ a, m.sat a = false := by
  simp only [List.eq_nil_iff_forall_not_mem, mem_solutions, Bool.not_eq_true]

theorem product_nodup (ds : List (List Int)) (h : ∀ d ∈ ds, d.Nodup) : (product ds).Nodup := by
  induction ds with
  | nil => exact List.nodup_cons.2 ⟨nofun, List.nodup_nil⟩
  | cons d ds ih =>
    have hds := ih fun d' hd' => h d' (List.mem_cons_of_mem _ hd')
    -- a block `(product ds).map (v :: ·)` repeats nothing, and blocks of distinct heads share nothing
    refine List.pairwise_flatMap.2 ⟨fun v _ => List.pairwise_map.2 (hds.imp fun hxy e => hxy (List.cons.inj e).2),
      (h d (List.mem_cons_self ..)).imp fun hvw x hx y hy e => ?_⟩
    obtain ⟨xs, _, rfl⟩ := List.mem_map.1 hx
    obtain ⟨ys, _, rfl⟩ := List.mem_map.1 hy
    exact hvw (List.cons.inj e).1

theorem solutions_nodup (m : Model) (h : ∀ d ∈ m.doms, d.Nodup) : (solutions m).Nodup :=
  List.Nodup.sublist List.filter_sublist (product_nodup _ h)

theorem inDoms_length {ds : List (List Int)} {a : List Int} (h : inDoms ds a = true) :
    a.length = ds.length := by
  induction ds generalizing a with
  | nil =>
    cases a with
    | nil => rfl
    | cons _ _ => cases h
  | cons d ds ih =>
    cases a with
    | nil => cases h
    | cons v vs => exact congrArg (· + 1) (ih (Bool.and_eq_true_iff.1 h).2)

end Pumpkin
