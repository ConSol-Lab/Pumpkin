/-
Verified acceptors over the oracle `solutions`: what the driver runs on every observation of the
real solver. Each `check…` is an executable Bool function with a theorem tying `= true` to the
specification-level statement. Several take the solution list as a parameter `sols`: the driver computes
`solutions m` once per model, and every theorem is about `sols := solutions m`.
-/
import Pumpkin.Spec.Basic

namespace Pumpkin

def nodupB : List (List Int) → Bool
  | [] => true
  | x :: xs => !xs.contains x && nodupB xs

theorem nodupB_iff (l : List (List Int)) : nodupB l = true ↔ l.Nodup := by
  induction l with
  | nil => simp [nodupB]
  | cons x xs ih => simp [nodupB, ih, List.nodup_cons]

/-- the acceptors state an implication `p → q` over all candidates as `!p || q` -/
theorem not_or_eq_true (p q : Bool) : (!p || q) = true ↔ (p = true → q = true) := by
  cases p <;> simp

def checkSolSet (m : Model) (sols ls : List (List Int)) : Bool :=
  nodupB ls && ls.all (fun a => m.sat a) && sols.all (fun a => ls.contains a)

theorem checkSolSet_iff (m : Model) (hd : ∀ d ∈ m.doms, d.Nodup) (ls : List (List Int)) :
    checkSolSet m (solutions m) ls = true ↔ ls.Perm (solutions m) := by
  simp only [checkSolSet, Bool.and_eq_true, List.all_eq_true, List.contains_iff_mem, nodupB_iff, ← mem_solutions]
  constructor
  · rintro ⟨⟨h1, h2⟩, h3⟩
    exact (List.perm_ext_iff_of_nodup h1 (solutions_nodup m hd)).2 fun a => ⟨h2 a, h3 a⟩
  · intro h
    exact ⟨⟨h.symm.nodup (solutions_nodup m hd), fun _ ha => h.subset ha⟩, fun _ ha => h.symm.subset ha⟩

theorem checkSolSet_perm (m : Model) (hd : ∀ d ∈ m.doms, d.Nodup) (ls : List (List Int))
    (h : checkSolSet m (solutions m) ls = true) : ls.Perm (solutions m) :=
  (checkSolSet_iff m hd ls).1 h

theorem checkSolSet_complete (m : Model) (ls : List (List Int)) (h : ls.Perm (solutions m))
    (hd : ∀ d ∈ m.doms, d.Nodup) : checkSolSet m (solutions m) ls = true :=
  (checkSolSet_iff m hd ls).2 h

/-- for a prefix of an iteration -/
def checkSubset (m : Model) (ls : List (List Int)) : Bool :=
  nodupB ls && ls.all (fun a => m.sat a)

theorem checkSubset_sound (m : Model) (ls : List (List Int)) (h : checkSubset m ls = true) :
    ls.Nodup ∧ ∀ a ∈ ls, a ∈ solutions m := by
  simp only [checkSubset, Bool.and_eq_true, List.all_eq_true] at h
  exact ⟨(nodupB_iff _).1 h.1, fun a ha => (mem_solutions m a).2 (h.2 a ha)⟩

def optimum (m : Model) (obj : View) (maximise : Bool) : Option Int :=
  let vals := (solutions m).map obj.eval
  if maximise then vals.max? else vals.min?

theorem min?_map_solutions {β : Type} [Min β] [LE β] [Std.IsLinearOrder β] [Std.LawfulOrderMin β]
    (m : Model) (f : List Int → β) (v : β) :
    ((solutions m).map f).min? = some v ↔
      (∃ a, m.sat a = true ∧ f a = v) ∧ ∀ a, m.sat a = true → v ≤ f a := by
  simp only [List.min?_eq_some_iff, List.mem_map, mem_solutions, forall_exists_index, and_imp,
    forall_apply_eq_imp_iff₂]

theorem max?_map_solutions {β : Type} [Max β] [LE β] [Std.IsLinearOrder β] [Std.LawfulOrderMax β]
    (m : Model) (f : List Int → β) (v : β) :
    ((solutions m).map f).max? = some v ↔
      (∃ a, m.sat a = true ∧ f a = v) ∧ ∀ a, m.sat a = true → f a ≤ v := by
  simp only [List.max?_eq_some_iff, List.mem_map, mem_solutions, forall_exists_index, and_imp,
    forall_apply_eq_imp_iff₂]

theorem optimum_min_spec (m : Model) (obj : View) (v : Int) :
    optimum m obj false = some v ↔
      (∃ a, m.sat a = true ∧ obj.eval a = v) ∧ ∀ a, m.sat a = true → v ≤ obj.eval a :=
  min?_map_solutions m obj.eval v

theorem optimum_max_spec (m : Model) (obj : View) (v : Int) :
    optimum m obj true = some v ↔
      (∃ a, m.sat a = true ∧ obj.eval a = v) ∧ ∀ a, m.sat a = true → obj.eval a ≤ v :=
  max?_map_solutions m obj.eval v

theorem optimum_none_iff (m : Model) (obj : View) (mx : Bool) :
    optimum m obj mx = none ↔ solutions m = [] := by
  cases mx <;> simp [optimum]

def checkBounds (sols : List (List Int)) (x : Nat) (lb ub : Int) : Bool :=
  sols.all (fun a => decide (lb ≤ val a x) && decide (val a x ≤ ub))

theorem checkBounds_sound (m : Model) (x : Nat) (lb ub : Int)
    (h : checkBounds (solutions m) x lb ub = true) (a : List Int) (ha : m.sat a = true) :
    lb ≤ val a x ∧ val a x ≤ ub := by
  simp only [checkBounds, List.all_eq_true, Bool.and_eq_true, decide_eq_true_eq] at h
  exact h a ((mem_solutions m a).2 ha)

def checkViewBounds (sols : List (List Int)) (w : View) (lb ub : Int) : Bool :=
  sols.all (fun a => decide (lb ≤ w.eval a) && decide (w.eval a ≤ ub))

theorem checkViewBounds_sound (m : Model) (w : View) (lb ub : Int)
    (h : checkViewBounds (solutions m) w lb ub = true) (a : List Int) (ha : m.sat a = true) :
    lb ≤ w.eval a ∧ w.eval a ≤ ub := by
  simp only [checkViewBounds, List.all_eq_true, Bool.and_eq_true, decide_eq_true_eq] at h
  exact h a ((mem_solutions m a).2 ha)

def checkNogood (sols : List (List Int)) (ng : List Atom) : Bool :=
  sols.all (fun a => !ng.all (·.holds a))

theorem checkNogood_iff (m : Model) (ng : List Atom) :
    checkNogood (solutions m) ng = true ↔ ∀ a, m.sat a = true → ¬ ∀ p ∈ ng, p.holds a = true := by
  simp only [checkNogood, List.all_eq_true, mem_solutions, Bool.not_eq_true', Bool.eq_false_iff, ne_eq]

theorem checkNogood_sound (m : Model) (ng : List Atom) (h : checkNogood (solutions m) ng = true)
    (a : List Int) (ha : m.sat a = true) : ¬ ∀ p ∈ ng, p.holds a = true :=
  (checkNogood_iff m ng).1 h a ha

/-- Specification of a core (relative to the declared domains):
every core predicate is implied by the assumptions, and model ∧ core has no solution. -/
def IsCore (m : Model) (assumps core : List Atom) : Prop :=
  (∀ c ∈ core, ∀ a, inDoms m.doms a = true → (∀ p ∈ assumps, p.holds a = true) → c.holds a = true)
  ∧ ∀ a, m.sat a = true → ¬ ∀ c ∈ core, c.holds a = true

def checkCore (m : Model) (assumps core : List Atom) : Bool :=
  (product m.doms).all (fun a => !assumps.all (·.holds a) || core.all (·.holds a))
  && checkNogood (solutions m) core

theorem checkCore_iff (m : Model) (assumps core : List Atom) :
    checkCore m assumps core = true ↔ IsCore m assumps core := by
  simp only [checkCore, IsCore, Bool.and_eq_true, List.all_eq_true, mem_product, not_or_eq_true,
    checkNogood_iff]
  exact and_congr_left fun _ => ⟨fun h c hc a hd hp => h a hd hp c hc, fun h a hd hp c hc => h c hc a hd hp⟩

def Model.withAtoms (m : Model) (as : List Atom) : Model :=
  { m with cons := m.cons ++ [Cons.conj as] }

theorem withAtoms_sat (m : Model) (as : List Atom) (a : List Int) :
    (m.withAtoms as).sat a = (m.sat a && as.all (·.holds a)) :=
  (Model.sat_append m.doms m.cons [Cons.conj as] a).trans (congrArg _ (Bool.and_true _))

/-- Inference check by enumeration within the declared domains:
`c ∧ premises → conclusion` (conclusion `none` = false, i.e. a conflict). -/
def checkInference (doms : List (List Int)) (c : Cons) (prem : List Atom) (concl : Option Atom) : Bool :=
  (product doms).all (fun a =>
    !(c.sat a && prem.all (·.holds a)) ||
      (match concl with
       | some q => q.holds a
       | none => false))

/-- The same check given *definitions*: constraints of the model of the form `r ↔ p` which define a
0-1 variable `r` as the truth value of an atomic predicate `p` (`Solver::new_literal_for_predicate`).
The solver writes `p` wherever `r` is meant, so an inference about `r` is judged with the
definitions at hand: `defs ∧ c ∧ premises → conclusion`. -/
def checkInferenceD (doms : List (List Int)) (defs : List Cons) (c : Cons) (prem : List Atom)
    (concl : Option Atom) : Bool :=
  (product doms).all (fun a =>
    !(defs.all (·.sat a)) ||
    (!(c.sat a && prem.all (·.holds a)) ||
      (match concl with
       | some q => q.holds a
       | none => false)))

theorem checkInferenceD_nil (doms : List (List Int)) (c : Cons) (prem : List Atom) (concl : Option Atom) :
    checkInferenceD doms [] c prem concl = checkInference doms c prem concl := by
  simp [checkInferenceD, checkInference]

theorem conclB_eq_true (concl : Option Atom) (a : List Int) :
    (match concl with | some q => q.holds a | none => false) = true ↔
      (match concl with | some q => q.holds a = true | none => False) := by
  cases concl <;> simp

theorem checkInferenceD_iff (doms : List (List Int)) (defs : List Cons) (c : Cons) (prem : List Atom)
    (concl : Option Atom) :
    checkInferenceD doms defs c prem concl = true ↔
      ∀ a, inDoms doms a = true → (∀ d ∈ defs, d.sat a = true) → c.sat a = true →
        (∀ p ∈ prem, p.holds a = true) →
        (match concl with | some q => q.holds a = true | none => False) := by
  simp only [checkInferenceD, List.all_eq_true, mem_product, not_or_eq_true, Bool.and_eq_true, and_imp,
    conclB_eq_true]

theorem checkInference_iff (doms : List (List Int)) (c : Cons) (prem : List Atom) (concl : Option Atom) :
    checkInference doms c prem concl = true ↔
      ∀ a, inDoms doms a = true → c.sat a = true → (∀ p ∈ prem, p.holds a = true) →
        (match concl with | some q => q.holds a = true | none => False) := by
  rw [← checkInferenceD_nil, checkInferenceD_iff]
  exact forall_congr' fun a => ⟨fun h hd => h hd (fun _ hm => nomatch hm), fun h hd _ => h hd⟩

/-- shape of a definition: `[r ≥ 1] ↔ (± x ⋈ k)` for a 0-1 variable `r` and a single variable `x`. Only
the driver asks for it (`litdefs`): `checkDrcp` is sound for any `nd`, the definitions being constraints of
the model (`DrcpCheck.defsOf_sub`). -/
def isDef (doms : List (List Int)) : Cons → Bool
  | .reif (.ge r 1) (.linLe [v] _) | .reif (.ge r 1) (.linEq [v] _) | .reif (.ge r 1) (.linNe [v] _) =>
    doms[r]? == some [0, 1] && v.var != r && (v.scale == 1 || v.scale == -1) && v.offset == 0
  | _ => false

end Pumpkin
