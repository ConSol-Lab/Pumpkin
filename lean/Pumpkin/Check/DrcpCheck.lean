/-
Verified checker for DRCP certificates (C06).

A proof is a list of `Drcp.Step`s over literal codes; `lits` maps a positive code to its atomic
predicate (negative codes denote the negation). The checker accepts

* an inference step tagged `t` iff `premises → conclusion` (conclusion absent = false) follows
  from constraint number `t` of the model alone, within the declared domains and given the
  definitions of the literal variables (the first `nd` constraints of the model);
* an untagged inference iff it follows from some single constraint of the model together with the
  unit nogoods derived so far (the solver stores a posted clause simplified by the root facts), or
  by domain-aware RUP from the live nogoods, or — when an objective is given — it is an
  *improvement axiom* (`axiomOf`);
* a nogood step iff its clause follows by domain-aware RUP from the steps it may
  use: with hints exactly the listed steps (inferences since the previous nogood and live nogoods),
  without hints all inferences since the previous nogood together with all live nogoods;
* `c UNSAT` iff the empty nogood was derived (and no improvement axiom was used);
* an optimality conclusion iff the empty nogood was derived and the concluded bound is the
  strongest improvement axiom's bound + 1 (minimisation) resp. − 1 (maximisation).
-/
import Pumpkin.Spec.Basic
import Pumpkin.Check.Oracle
import Pumpkin.Check.AtomRup
import Pumpkin.Check.Derive
import Pumpkin.Model.Drcp

namespace Pumpkin.DrcpCheck
open Pumpkin.Drcp Pumpkin.AtomRup

def atomOfCode (lits : List (Nat × Atom)) (code : Int) : Option Atom :=
  match lits.find? (fun e => e.1 == code.natAbs) with
  | some e => some (if code > 0 then e.2 else e.2.neg)
  | none => none

def atomsOfCodes (lits : List (Nat × Atom)) (codes : List Int) : Option (List Atom) :=
  codes.mapM (atomOfCode lits)

/-- direction of the improvement axioms: `none` = satisfaction problem -/
inductive Obj | none | minimise (x : Nat) | maximise (x : Nat)
deriving Repr

structure St where
  /-- clauses of the inference steps since the last nogood step -/
  window : List (List Atom) := []
  /-- step ids of the inference steps in `window` (same order) -/
  windowIds : List Nat := []
  nogoods : List (Nat × List Atom) := []
  sawEmpty : Bool := false
  /-- bounds of the improvement axioms used so far -/
  axioms : List Int := []
deriving Repr

/-- An improvement axiom `[obj ≤ v]` (minimising) / `[obj ≥ v]` (maximising); the solver writes it
either as "no premises, conclusion `l`" or in the form `¬l → false` (premise `¬l`, no conclusion). -/
def isAxiom (obj : Obj) (prem : List Atom) (concl : Option Atom) : Option Int :=
  match obj, prem, concl with
  | .minimise x, [], some (Atom.le y v) => if x == y then some v else Option.none
  | .maximise x, [], some (Atom.ge y v) => if x == y then some v else Option.none
  | .minimise x, [Atom.ge y v], Option.none => if x == y then some (v - 1) else Option.none
  | .maximise x, [Atom.le y v], Option.none => if x == y then some (v + 1) else Option.none
  | _, _, _ => Option.none

/-- The axiom may also be one premise alone or the conclusion alone: the solver writes "true"/"false" as
literals over its constant variable, so `[obj ≥ v] → false` may come out as `[obj ≥ v] ∧ true → false`
or `[obj ≥ v] → false-literal`. A clause implies each of its supersets. -/
def axiomOf (obj : Obj) (prem : List Atom) (concl : Option Atom) : Option Int :=
  match isAxiom obj prem concl with
  | some v => some v
  | none =>
    match prem.findSome? (fun p => isAxiom obj [p] Option.none) with
    | some v => some v
    | none => isAxiom obj [] concl

def inferenceClause (prem : List Atom) (concl : Option Atom) : List Atom :=
  prem.map Atom.neg ++ (match concl with | some q => [q] | none => [])

def liveClauses (st : St) : List (List Atom) := st.nogoods.map (·.2)

def unitFacts (st : St) : List Atom :=
  (liveClauses st).filterMap (fun cl => match cl with | [q] => some q | _ => Option.none)

def usable (st : St) (hints : Option (List Nat)) : List (List Atom) :=
  match hints with
  | none => st.window ++ liveClauses st
  | some hs => ((st.windowIds.zip st.window ++ st.nogoods).filter (fun e => hs.contains e.1)).map (·.2)

theorem usable_sub (st : St) (hints : Option (List Nat)) :
    ∀ c ∈ usable st hints, c ∈ st.window ++ liveClauses st := by
  intro c hc
  cases hints with
  | none => exact hc
  | some hs =>
    simp only [usable, List.mem_map, List.mem_filter, List.mem_append] at hc
    obtain ⟨e, ⟨he, _⟩, rfl⟩ := hc
    rcases he with he | he
    · exact List.mem_append_left _ (List.of_mem_zip he).2
    · exact List.mem_append_right _ (List.mem_map.2 ⟨e, he, rfl⟩)

def defsOf (m : Model) (nd : Nat) : List Cons := m.cons.take nd

theorem defsOf_sub (m : Model) (nd : Nat) : ∀ d ∈ defsOf m nd, d ∈ m.cons :=
  fun _ hd => List.mem_of_mem_take hd

theorem defsOf_zero (m : Model) : defsOf m 0 = [] := by simp [defsOf]

def stepCheck (m : Model) (nd : Nat) (lits : List (Nat × Atom)) (obj : Obj) (st : St) : Step → Option St
  | .inference id prem prop tag _ => do
    let premA ← atomsOfCodes lits prem
    let conclA ← (match prop with
      | some p => (atomOfCode lits p).map some
      | none => some none)
    let clause := inferenceClause premA conclA
    if !wfClause m.doms.length clause then none else
    match tag with
    | some t =>
      match m.cons[t - 1]? with
      | some c =>
        if t ≠ 0 && checkInferenceD m.doms (defsOf m nd) c premA conclA then some { st with window := clause :: st.window, windowIds := id :: st.windowIds } else none
      | none => none
    | none =>
      if m.cons.any (fun c => checkInferenceD m.doms (defsOf m nd) c (premA ++ unitFacts st) conclA) then
        some { st with window := clause :: st.window, windowIds := id :: st.windowIds }
      else if rup m.doms (liveClauses st) clause then
        some { st with window := clause :: st.window, windowIds := id :: st.windowIds }
      else
        match axiomOf obj premA conclA with
        | some v => some { st with window := clause :: st.window, windowIds := id :: st.windowIds, axioms := v :: st.axioms }
        | none => none
  | .nogood id codes hints => do
    let clause ← atomsOfCodes lits codes
    if !wfClause m.doms.length clause then none else
    if rup m.doms (usable st hints) clause then
      some { st with window := [], windowIds := [], nogoods := (id, clause) :: st.nogoods,
                     sawEmpty := st.sawEmpty || clause.isEmpty }
    else none
  | .deletion id => some { st with nogoods := st.nogoods.filter (fun e => e.1 != id) }
  | .unsat => some st
  | .optimal _ => some st

def runSteps (m : Model) (nd : Nat) (lits : List (Nat × Atom)) (obj : Obj) : St → List Step → Option St
  | st, [] => some st
  | st, s :: rest =>
    match stepCheck m nd lits obj st s with
    | some st' => runSteps m nd lits obj st' rest
    | none => none

inductive Verdict
  | unsat
  | bound (b : Int)
  /-- every step is valid, the conclusion states the bound `b` on variable `x`, but the proof does
  not contain a refutation of the improvement axioms (the bound itself is then judged by the oracle) -/
  | stepsValid (x : Nat) (b : Int)
  | rejected
deriving DecidableEq, Repr

def concludeWithoutRefutation (lits : List (Nat × Atom)) (obj : Obj) (last : Option Step) : Verdict :=
  match last, obj with
  | some (.optimal code), .minimise x | some (.optimal code), .maximise x =>
    (match atomOfCode lits code with
     | some q => if q.var == x then .stepsValid x q.bound else .rejected
     | none => .rejected)
  | _, _ => .rejected

theorem concludeWithoutRefutation_ne (lits : List (Nat × Atom)) (obj : Obj) (last : Option Step) :
    concludeWithoutRefutation lits obj last ≠ .unsat ∧ ∀ b, concludeWithoutRefutation lits obj last ≠ .bound b := by
  unfold concludeWithoutRefutation
  -- every branch of `concludeWithoutRefutation` is `.stepsValid ..` or `.rejected`
  constructor
  · split <;> (try split) <;> (try split) <;> simp
  · intro b
    split <;> (try split) <;> (try split) <;> simp

/-- the conclusion is the last step -/
def checkDrcp (m : Model) (nd : Nat) (lits : List (Nat × Atom)) (obj : Obj) (steps : List Step) : Verdict :=
  match runSteps m nd lits obj {} steps with
  | none => .rejected
  | some st =>
    if !st.sawEmpty then concludeWithoutRefutation lits obj steps.getLast?
    else
    match steps.getLast? with
    | some .unsat => if st.axioms.isEmpty then .unsat else .rejected
    | some (.optimal code) =>
      match obj, atomOfCode lits code, st.axioms with
      | .minimise x, some q, v :: vs =>
        let vmin := vs.foldl min v
        if q.var == x && q.bound == vmin + 1 then .bound (vmin + 1) else .rejected
      | .maximise x, some q, v :: vs =>
        let vmax := vs.foldl max v
        if q.var == x && q.bound == vmax - 1 then .bound (vmax - 1) else .rejected
      | .minimise x, some q, [] | .maximise x, some q, [] =>
        -- refuted without an axiom: the model has no solution, and the oracle that judges the bound of
        -- `stepsValid` finds no optimum
        if q.var == x then .stepsValid x q.bound else .rejected
      | _, _, _ => .rejected
    | _ => .rejected

/-- Why `stepCheck` accepts the inference `prem → concl` under the tag; the last index is the axiom bounds
recorded afterwards. -/
inductive Justified (m : Model) (nd : Nat) (obj : Obj) (st : St) (prem : List Atom) (concl : Option Atom) :
    Option Nat → List Int → Prop
  | tagged {t c} : t ≠ 0 → m.cons[t - 1]? = some c →
      checkInferenceD m.doms (defsOf m nd) c prem concl = true → Justified m nd obj st prem concl (some t) st.axioms
  | posted {c} : c ∈ m.cons → checkInferenceD m.doms (defsOf m nd) c (prem ++ unitFacts st) concl = true →
      Justified m nd obj st prem concl none st.axioms
  | byRup : rup m.doms (liveClauses st) (inferenceClause prem concl) = true →
      Justified m nd obj st prem concl none st.axioms
  | improvement {v} : axiomOf obj prem concl = some v → Justified m nd obj st prem concl none (v :: st.axioms)

section
variable {m : Model} {nd : Nat} {lits : List (Nat × Atom)} {obj : Obj} {st st' stf : St}

/-- the second conjunct ties `conclA` to the step's `prop`, which `C06.inference_follows_from_its_constraint` does not -/
theorem stepCheck_inference {id : Nat} {prem : List Int} {prop : Option Int} {tag : Option Nat}
    {label : Option String}
    (h : stepCheck m nd lits obj st (.inference id prem prop tag label) = some st') :
    ∃ premA conclA axs', atomsOfCodes lits prem = some premA ∧
      (match (motive := Option Int → Option (Option Atom)) prop with
        | some p => (atomOfCode lits p).map some
        | none => some none) = some conclA ∧
      wfClause m.doms.length (inferenceClause premA conclA) = true ∧
      Justified m nd obj st premA conclA tag axs' ∧
      st' = { st with window := inferenceClause premA conclA :: st.window, windowIds := id :: st.windowIds,
                      axioms := axs' } := by
  obtain ⟨premA, hp, h⟩ := Option.bind_eq_some_iff.1 h
  obtain ⟨conclA, hq, h⟩ := Option.bind_eq_some_iff.1 h
  obtain ⟨hwf, h⟩ := Option.ite_none_left_eq_some.1 h
  simp only [Bool.not_eq_true', Bool.not_eq_false] at hwf
  refine ⟨premA, conclA, ?_⟩
  cases tag with
  | some t =>
    dsimp only at h
    split at h
    · rename_i c hc
      obtain ⟨hchk, h⟩ := Option.ite_none_right_eq_some.1 h
      simp only [Bool.and_eq_true, decide_eq_true_eq] at hchk
      cases h
      exact ⟨_, hp, hq, hwf, .tagged hchk.1 hc hchk.2, rfl⟩
    · cases h
  | none =>
    dsimp only at h
    split at h
    · rename_i hany
      obtain ⟨c, hc, hchk⟩ := List.any_eq_true.1 hany
      cases h
      exact ⟨_, hp, hq, hwf, .posted hc hchk, rfl⟩
    · split at h
      · rename_i hrup
        cases h
        exact ⟨_, hp, hq, hwf, .byRup hrup, rfl⟩
      · split at h
        · rename_i v hv
          cases h
          exact ⟨_, hp, hq, hwf, .improvement hv, rfl⟩
        · cases h

theorem stepCheck_nogood {id : Nat} {codes : List Int} {hints : Option (List Nat)}
    (h : stepCheck m nd lits obj st (.nogood id codes hints) = some st') :
    ∃ cl, atomsOfCodes lits codes = some cl ∧ wfClause m.doms.length cl = true ∧
      rup m.doms (usable st hints) cl = true ∧
      st' = { st with window := [], windowIds := [], nogoods := (id, cl) :: st.nogoods,
                      sawEmpty := st.sawEmpty || cl.isEmpty } := by
  obtain ⟨cl, hc, h⟩ := Option.bind_eq_some_iff.1 h
  obtain ⟨hwf, h⟩ := Option.ite_none_left_eq_some.1 h
  obtain ⟨hrup, h⟩ := Option.ite_none_right_eq_some.1 h
  simp only [Bool.not_eq_true', Bool.not_eq_false] at hwf
  cases h
  exact ⟨cl, hc, hwf, hrup, rfl⟩

theorem stepCheck_axioms_mono {s : Step} (h : stepCheck m nd lits obj st s = some st') : ∀ v ∈ st.axioms, v ∈ st'.axioms := by
  intro v hv
  cases s with
  | deletion _ | unsat | optimal _ => cases h; exact hv
  | nogood id codes hints => obtain ⟨cl, -, -, -, rfl⟩ := stepCheck_nogood h; exact hv
  | inference id prem prop tag label =>
    obtain ⟨premA, conclA, axs', -, -, -, hj, rfl⟩ := stepCheck_inference h
    cases hj with
    | improvement => exact List.mem_cons_of_mem _ hv
    | _ => exact hv

theorem runSteps_axioms_mono {steps : List Step} (h : runSteps m nd lits obj st steps = some stf) : ∀ v ∈ st.axioms, v ∈ stf.axioms := by
  induction steps generalizing st with
  | nil => cases h; exact fun _ hv => hv
  | cons s rest ih =>
    simp only [runSteps] at h
    split at h
    · rename_i st' hs
      exact fun v hv => ih h v (stepCheck_axioms_mono hs v hv)
    · cases h

end

/-- the assignments the proof talks about: solutions that obey every improvement axiom with bound in `axs` -/
def Good (m : Model) (obj : Obj) (axs : List Int) (a : List Int) : Prop :=
  m.sat a = true ∧
    match obj with
    | .none => True
    | .minimise x => ∀ v ∈ axs, val a x ≤ v
    | .maximise x => ∀ v ∈ axs, v ≤ val a x

/-- What accepted steps maintain, relative to a list `axs` fixed in advance that contains the axioms of
the state. `inv_final` takes the axioms of the final state for it: axioms only grow. -/
def Inv (m : Model) (obj : Obj) (axs : List Int) (st : St) : Prop :=
  (∀ v ∈ st.axioms, v ∈ axs) ∧
  (∀ c ∈ st.window, wfClause m.doms.length c = true ∧ ∀ a, Good m obj axs a → c.any (·.holds a) = true) ∧
  (∀ e ∈ st.nogoods, wfClause m.doms.length e.2 = true ∧ ∀ a, Good m obj axs a → e.2.any (·.holds a) = true) ∧
  (st.sawEmpty = true → ∀ a, ¬ Good m obj axs a)

section
variable {m : Model} {nd : Nat} {obj : Obj} {axs : List Int} {st : St} {a : List Int} {prem : List Atom}
  {concl : Option Atom} {v : Int}

theorem Good.inDoms (h : Good m obj axs a) :
    inDoms m.doms a = true :=
  (Model.sat_iff.1 h.1).1

theorem Good.cons_sat (h : Good m obj axs a) :
    ∀ c ∈ m.cons, c.sat a = true :=
  (Model.sat_iff.1 h.1).2

theorem inferenceClause_holds
    (h : (∀ p ∈ prem, p.holds a = true) → (match concl with | some q => q.holds a = true | none => False)) :
    (inferenceClause prem concl).any (·.holds a) = true := by
  -- for either shape of `concl`, `inferenceClause prem concl` reduces to `Derive.clauseOf (prem, concl)`
  cases concl with
  | none => exact Derive.clause_holds (prem, none) a fun hp => (h hp).elim
  | some q => exact Derive.clause_holds (prem, some q) a fun hp => ⟨q, rfl, h hp⟩

theorem checkInference_clause {c : Cons} (hc : c ∈ m.cons) {extra : List Atom}
    (h : checkInferenceD m.doms (defsOf m nd) c (prem ++ extra) concl = true) (ha : Good m obj axs a) (hex : ∀ q ∈ extra, q.holds a = true) :
    (inferenceClause prem concl).any (·.holds a) = true :=
  inferenceClause_holds fun hp =>
    (checkInferenceD_iff m.doms _ c _ concl).1 h a ha.inDoms
      (fun d hd => ha.cons_sat d (defsOf_sub m nd d hd)) (ha.cons_sat c hc)
      (fun p hp' => (List.mem_append.1 hp').elim (hp p) (hex p))

theorem live_hold (hinv : Inv m obj axs st) :
    ∀ c ∈ st.window ++ liveClauses st, wfClause m.doms.length c = true ∧
      ∀ a, Good m obj axs a → c.any (·.holds a) = true := by
  obtain ⟨-, hwin, hng, -⟩ := hinv
  intro c hc
  rcases List.mem_append.1 hc with h | h
  · exact hwin c h
  · obtain ⟨e, he, rfl⟩ := List.mem_map.1 h
    exact hng e he

theorem unitFacts_hold (hinv : Inv m obj axs st) (ha : Good m obj axs a) : ∀ q ∈ unitFacts st, q.holds a = true := by
  intro q hq
  obtain ⟨cl, hcl, hq⟩ := List.mem_filterMap.1 hq
  have hh := (live_hold hinv cl (List.mem_append_right _ hcl)).2 a ha
  split at hq
  · cases hq
    simpa using hh
  · cases hq

theorem rup_holds (hinv : Inv m obj axs st) {cs : List (List Atom)}
    (hsub : ∀ c ∈ cs, c ∈ st.window ++ liveClauses st) {cl : List Atom}
    (h : rup m.doms cs cl = true) (ha : Good m obj axs a) : cl.any (·.holds a) = true :=
  rup_sound m.doms cs cl (fun c hc => wf_of_wfClause (live_hold hinv c (hsub c hc)).1) h a ha.inDoms
    (fun c hc => (live_hold hinv c (hsub c hc)).2 a ha)

def boundLit : Obj → Int → Option Atom
  | .minimise x, v => some (Atom.le x v)
  | .maximise x, v => some (Atom.ge x v)
  | .none, _ => none

theorem Good.holds_boundLit (ha : Good m obj axs a) (hv : v ∈ axs) {q : Atom} (hq : boundLit obj v = some q) : q.holds a = true := by
  cases obj with
  | none => cases hq
  | minimise x | maximise x => cases hq; exact decide_eq_true (ha.2 v hv)

theorem isAxiom_clause (h : isAxiom obj prem concl = some v) :
    ∃ q, boundLit obj v = some q ∧ inferenceClause prem concl = [q] := by
  unfold isAxiom at h
  split at h
  -- the four ways of writing it: the variable is the objective, the clause the literal
  iterate 4
    · obtain ⟨hxy, hv⟩ := Option.ite_none_right_eq_some.1 h
      cases eq_of_beq hxy
      cases hv
      exact ⟨_, rfl, rfl⟩
  · cases h

theorem axiomOf_mem (h : axiomOf obj prem concl = some v) : ∃ q, boundLit obj v = some q ∧ q ∈ inferenceClause prem concl := by
  unfold axiomOf at h
  split at h
  · rename_i w hw
    obtain ⟨q, hq, hcl⟩ := isAxiom_clause (h ▸ hw)
    exact ⟨q, hq, hcl ▸ List.mem_singleton_self q⟩
  · split at h
    · rename_i w hw
      obtain ⟨p, hp, hpa⟩ := List.exists_of_findSome?_eq_some hw
      obtain ⟨q, hq, hcl⟩ := isAxiom_clause (h ▸ hpa)
      refine ⟨q, hq, List.mem_append_left _ (List.mem_map.2 ⟨p, hp, ?_⟩)⟩
      simpa [inferenceClause] using hcl
    · obtain ⟨q, hq, hcl⟩ := isAxiom_clause h
      have : q ∈ inferenceClause [] concl := hcl ▸ List.mem_singleton_self q
      exact ⟨q, hq, List.mem_append_right _ this⟩

theorem Justified.holds {tag : Option Nat} {axs' : List Int} (hj : Justified m nd obj st prem concl tag axs')
    (hax : ∀ v ∈ axs', v ∈ axs) (hinv : Inv m obj axs st) (ha : Good m obj axs a) :
    (inferenceClause prem concl).any (·.holds a) = true := by
  cases hj with
  | tagged _ hc hchk =>
    exact checkInference_clause (extra := []) (List.mem_of_getElem? hc) (by rwa [List.append_nil]) ha
      (fun _ hq => nomatch hq)
  | posted hc hchk => exact checkInference_clause hc hchk ha (unitFacts_hold hinv ha)
  | byRup hrup => exact rup_holds hinv (fun c hc => List.mem_append_right _ hc) hrup ha
  | improvement hv =>
    obtain ⟨q, hq, hm⟩ := axiomOf_mem hv
    exact List.any_eq_true.2 ⟨q, hm, ha.holds_boundLit (hax _ (List.mem_cons_self ..)) hq⟩

end

theorem stepCheck_inv (m : Model) (nd : Nat) (lits : List (Nat × Atom)) (obj : Obj) (axs : List Int) (st st' : St)
    (s : Step) (h : stepCheck m nd lits obj st s = some st') (hax : ∀ v ∈ st'.axioms, v ∈ axs)
    (hinv : Inv m obj axs st) : Inv m obj axs st' := by
  obtain ⟨hsub, hwin, hng, hemp⟩ := id hinv  -- `id`: keeps `hinv` itself in the context
  cases s with
  | unsat | optimal _ => cases h; exact hinv
  | deletion id =>
    cases h
    exact ⟨hsub, hwin, fun e he => hng e (List.mem_filter.1 he).1, hemp⟩
  | nogood id codes hints =>
    obtain ⟨cl, -, hwf, hrup, rfl⟩ := stepCheck_nogood h
    have hholds : ∀ a, Good m obj axs a → cl.any (·.holds a) = true :=
      fun a ha => rup_holds hinv (usable_sub st hints) hrup ha
    refine ⟨hsub, fun _ hc => (nomatch (hc : _ ∈ [])), ?_, ?_⟩
    · intro e he
      cases he with
      | head => exact ⟨hwf, hholds⟩
      | tail _ he' => exact hng e he'
    · intro hs a ha
      rcases Bool.or_eq_true _ _ ▸ hs with hs | hs
      · exact hemp hs a ha
      · cases List.isEmpty_iff.1 hs
        exact Bool.false_ne_true (hholds a ha)
  | inference id prem prop tag label =>
    obtain ⟨premA, conclA, axs', -, -, hwf, hj, rfl⟩ := stepCheck_inference h
    refine ⟨hax, ?_, hng, hemp⟩
    intro c hc
    cases hc with
    | head => exact ⟨hwf, fun a ha => hj.holds hax hinv ha⟩
    | tail _ hc' => exact hwin c hc'

theorem runSteps_inv (m : Model) (nd : Nat) (lits : List (Nat × Atom)) (obj : Obj) (axs : List Int)
    (steps : List Step) (st stf : St) (h : runSteps m nd lits obj st steps = some stf)
    (hax : ∀ v ∈ stf.axioms, v ∈ axs) (hinv : Inv m obj axs st) : Inv m obj axs stf := by
  induction steps generalizing st with
  | nil => cases h; exact hinv
  | cons s rest ih =>
    simp only [runSteps] at h
    split at h
    · rename_i st' hs
      exact ih st' h (stepCheck_inv m nd lits obj axs st st' s hs
        (fun v hv => hax v (runSteps_axioms_mono h v hv)) hinv)
    · cases h

theorem inv_init (m : Model) (obj : Obj) (axs : List Int) : Inv m obj axs {} :=
  ⟨fun _ h => (nomatch (h : _ ∈ [])), fun _ h => (nomatch (h : _ ∈ [])), fun _ h => (nomatch (h : _ ∈ [])),
    fun h => (nomatch (h : false = true))⟩

section
variable {m : Model} {nd : Nat} {lits : List (Nat × Atom)} {obj : Obj} {steps : List Step}

theorem inv_final {st : St} (hr : runSteps m nd lits obj {} steps = some st) : Inv m obj st.axioms st :=
  runSteps_inv m nd lits obj st.axioms steps {} st hr (fun _ hv => hv) (inv_init m obj _)

theorem refuted {st : St} (hr : runSteps m nd lits obj {} steps = some st) (hs : st.sawEmpty = true) :
    ∀ a, ¬ Good m obj st.axioms a :=
  (inv_final hr).2.2.2 hs

theorem checkDrcp_unsat (h : checkDrcp m nd lits obj steps = .unsat) :
    ∃ st, runSteps m nd lits obj {} steps = some st ∧ st.sawEmpty = true ∧ st.axioms = [] := by
  unfold checkDrcp at h
  split at h
  · cases h
  · rename_i st hr
    cases hse : st.sawEmpty with
    | false =>
      -- after `hse ▸`, `!false` computes to `true` and `h` reads `concludeWithoutRefutation .. = .unsat`
      exact absurd (hse ▸ h) (concludeWithoutRefutation_ne lits obj _).1
    | true =>
      rw [hse, if_neg (by decide)] at h
      -- by the last step: `c UNSAT`, an optimality conclusion, anything else
      split at h
      · split at h
        · rename_i hax; exact ⟨st, hr, hse, List.isEmpty_iff.1 hax⟩
        · cases h
      · -- no arm of the optimality match answers `.unsat`
        split at h <;> (try dsimp only at h) <;> (try split at h) <;> cases h
      · cases h

theorem checkDrcp_bound {b : Int} (h : checkDrcp m nd lits obj steps = .bound b) :
    ∃ st v vs, runSteps m nd lits obj {} steps = some st ∧ st.sawEmpty = true ∧ st.axioms = v :: vs ∧
      ((∃ x, obj = .minimise x ∧ b = vs.foldl min v + 1) ∨ (∃ x, obj = .maximise x ∧ b = vs.foldl max v - 1)) := by
  unfold checkDrcp at h
  split at h
  · cases h
  · rename_i st hr
    cases hse : st.sawEmpty with
    | false => exact absurd (hse ▸ h) ((concludeWithoutRefutation_ne lits obj _).2 b)  -- as in `checkDrcp_unsat`
    | true =>
      rw [hse, if_neg (by decide)] at h
      -- by the last step; the optimality match: minimising with axioms `v :: vs`, maximising likewise, either
      -- without axioms, the rest
      split at h
      · split at h <;> cases h
      · split at h
        · rename_i x q v vs _ hax
          dsimp only at h
          split at h
          · cases h; exact ⟨st, v, vs, hr, hse, hax, .inl ⟨x, rfl, rfl⟩⟩
          · cases h
        · rename_i x q v vs _ hax
          dsimp only at h
          split at h
          · cases h; exact ⟨st, v, vs, hr, hse, hax, .inr ⟨x, rfl, rfl⟩⟩
          · cases h
        · split at h <;> cases h
        · split at h <;> cases h
        · cases h
      · cases h

end

theorem checkDrcp_unsat_sound (m : Model) (nd : Nat) (lits : List (Nat × Atom)) (obj : Obj) (steps : List Step)
    (h : checkDrcp m nd lits obj steps = .unsat) : ∀ a, m.sat a = false := by
  obtain ⟨st, hr, hs, hax⟩ := checkDrcp_unsat h
  intro a
  refine Bool.eq_false_iff.2 fun ha => refuted hr hs a ⟨ha, ?_⟩
  -- there are no axioms to obey
  rw [hax]
  cases obj <;> simp

theorem foldl_min_mem (v : Int) (vs : List Int) : vs.foldl min v ∈ v :: vs :=
  (foldl_min_spec vs v).1

theorem checkDrcp_bound_sound_min (m : Model) (nd : Nat) (lits : List (Nat × Atom)) (x : Nat) (steps : List Step)
    (b : Int) (h : checkDrcp m nd lits (.minimise x) steps = .bound b) :
    ∀ a, m.sat a = true → b ≤ val a x := by
  obtain ⟨st, v, vs, hr, hs, hax, ⟨_, _, rfl⟩ | ⟨_, ho, _⟩⟩ := checkDrcp_bound h
  · -- a solution below the bound would obey the strongest axiom, hence all of them
    intro a ha
    refine Int.not_lt.1 fun hlt => refuted hr hs a ⟨ha, fun w hw => ?_⟩
    have := (foldl_min_spec vs v).2 w (hax ▸ hw)
    omega
  · cases ho

theorem checkDrcp_bound_sound_max (m : Model) (nd : Nat) (lits : List (Nat × Atom)) (x : Nat) (steps : List Step)
    (b : Int) (h : checkDrcp m nd lits (.maximise x) steps = .bound b) :
    ∀ a, m.sat a = true → val a x ≤ b := by
  obtain ⟨st, v, vs, hr, hs, hax, ⟨_, ho, _⟩ | ⟨_, _, rfl⟩⟩ := checkDrcp_bound h
  · cases ho
  · intro a ha
    refine Int.not_lt.1 fun hlt => refuted hr hs a ⟨ha, fun w hw => ?_⟩
    have := (foldl_max_spec vs v).2 w (hax ▸ hw)
    omega

end Pumpkin.DrcpCheck
