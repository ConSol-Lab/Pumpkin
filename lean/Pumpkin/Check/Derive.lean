/-
Derivation check for learned nogoods: a nogood `N` is accepted if it follows by domain-aware unit
propagation (`AtomRup.rup`) from a set of implications `premises → conclusion` (the reasons handed to
conflict analysis, the conflict, root propagations, earlier nogoods).
-/
import Pumpkin.Check.AtomRup

namespace Pumpkin.Derive

open Pumpkin.AtomRup

/-- `premises → conclusion` (`none` = the premises are contradictory) -/
abbrev Impl := List Atom × Option Atom

def clauseOf (c : Impl) : List Atom := c.1.map Atom.neg ++ c.2.toList

def Impl.respected (c : Impl) (a : List Int) : Prop :=
  (∀ p ∈ c.1, p.holds a = true) → ∃ q, c.2 = some q ∧ q.holds a = true

/-- every variable exists (`derivable_sound` needs it of the clauses only) -/
def wf (n : Nat) (g : List Impl) (ng : List Atom) : Bool :=
  g.all (fun c => (clauseOf c).all (fun p => decide (p.var < n))) && ng.all (fun p => decide (p.var < n))

def derivable (doms : Doms) (g : List Impl) (ng : List Atom) : Bool :=
  wf doms.length g ng && rup doms (g.map clauseOf) (ng.map Atom.neg)

theorem clause_holds (c : Impl) (a : List Int) (h : c.respected a) : (clauseOf c).any (·.holds a) = true := by
  rw [clauseOf, List.any_append, Bool.or_eq_true]
  cases hall : c.1.all (·.holds a) with
  | true =>
    obtain ⟨q, hq, hh⟩ := h (List.all_eq_true.1 hall)
    exact Or.inr (by rw [hq]; exact List.any_eq_true.2 ⟨q, List.mem_singleton_self q, hh⟩)
  | false =>
    obtain ⟨p, hp, hv⟩ := List.all_eq_false.1 hall
    exact Or.inl (List.any_eq_true.2 ⟨p.neg, List.mem_map_of_mem hp, by rw [Atom.neg_holds, Bool.eq_false_iff.2 hv]; rfl⟩)

theorem derivable_sound (doms : Doms) (g : List Impl) (ng : List Atom) (h : derivable doms g ng = true)
    (a : List Int) (ha : inDoms doms a = true) (hg : ∀ c ∈ g, c.respected a) :
    ¬ ∀ p ∈ ng, p.holds a = true := by
  obtain ⟨hw, hr⟩ := Bool.and_eq_true_iff.1 h
  obtain ⟨hwg, -⟩ := Bool.and_eq_true_iff.1 hw
  -- `this : (ng.map Atom.neg).any (·.holds a) = true`
  have := rup_sound doms (g.map clauseOf) (ng.map Atom.neg)
    (List.forall_mem_map.2 fun i hi => wf_of_wfClause (List.all_eq_true.1 hwg i hi))
    hr a ha (List.forall_mem_map.2 fun i hi => clause_holds i a (hg i hi))
  intro hall
  obtain ⟨q, hq, hh⟩ := List.any_eq_true.1 this
  obtain ⟨p, hp, rfl⟩ := List.mem_map.1 hq
  rw [Atom.neg_holds, hall p hp] at hh
  cases hh

end Pumpkin.Derive
