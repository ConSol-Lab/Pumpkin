/-
MaxSAT specification and verified oracle (C15): the cost of an assignment is the total weight of
the falsified soft clauses; the optimum is the minimum cost over the assignments satisfying the
hard clauses (the model).
-/
import Pumpkin.Spec.Basic
import Pumpkin.Check.Oracle

namespace Pumpkin

/-- a soft clause: weight and atoms (disjunction) -/
structure Soft where
  weight : Nat
  atoms : List Atom
deriving Repr, Inhabited

def softCost (softs : List Soft) (a : List Int) : Nat :=
  (softs.map (fun s => if s.atoms.any (·.holds a) then 0 else s.weight)).foldl (· + ·) 0

def maxsatOpt (m : Model) (softs : List Soft) : Option Nat :=
  ((solutions m).map (softCost softs)).min?

theorem maxsatOpt_spec (m : Model) (softs : List Soft) (v : Nat) :
    maxsatOpt m softs = some v ↔
      (∃ a, m.sat a = true ∧ softCost softs a = v) ∧ ∀ a, m.sat a = true → v ≤ softCost softs a :=
  min?_map_solutions m (softCost softs) v

theorem maxsatOpt_none_iff (m : Model) (softs : List Soft) :
    maxsatOpt m softs = none ↔ solutions m = [] := by
  simp [maxsatOpt]

def checkMaxSat (m : Model) (softs : List Soft) (reported : Nat) (a : List Int) : Bool :=
  m.sat a && softCost softs a == reported && maxsatOpt m softs == some reported

theorem checkMaxSat_sound (m : Model) (softs : List Soft) (reported : Nat) (a : List Int)
    (h : checkMaxSat m softs reported a = true) :
    m.sat a = true ∧ softCost softs a = reported ∧ ∀ b, m.sat b = true → reported ≤ softCost softs b := by
  simp only [checkMaxSat, Bool.and_eq_true, beq_iff_eq] at h
  exact ⟨h.1.1, h.1.2, ((maxsatOpt_spec m softs reported).1 h.2).2⟩

end Pumpkin
