/-
Verified clausal reverse-unit-propagation checker for DIMACS CNF formulas and DRAT-style proofs
(used for C14: the clauses the solver writes to its proof file must be a RUP refutation).

Literals are non-zero integers (DIMACS); an assignment is `Nat → Bool`.
-/
import Pumpkin.Spec.Lists

namespace Pumpkin.Rup

abbrev Clause := List Int

def litHolds (a : Nat → Bool) (l : Int) : Bool := if l > 0 then a l.natAbs else !a l.natAbs

def clauseHolds (a : Nat → Bool) (c : Clause) : Bool := c.any (litHolds a)

def cnfHolds (a : Nat → Bool) (cs : List Clause) : Bool := cs.all (clauseHolds a)

theorem litHolds_neg (a : Nat → Bool) (l : Int) (h : l ≠ 0) : litHolds a (-l) = !litHolds a l := by
  unfold litHolds
  by_cases hp : l > 0
  · rw [if_pos hp, if_neg (by omega), Int.natAbs_neg]
  · rw [if_neg hp, if_pos (by omega), Int.natAbs_neg, Bool.not_not]

/-- state of unit propagation: the literals known to be true -/
def isTrue (tr : List Int) (l : Int) : Bool := tr.contains l
def isFalse (tr : List Int) (l : Int) : Bool := tr.contains (-l)

inductive ClauseStatus | satisfied | conflict | unit (l : Int) | open_
deriving Repr

def status (tr : List Int) (c : Clause) : ClauseStatus :=
  if c.any (isTrue tr) then .satisfied
  else
    match c.filter (fun l => !isFalse tr l) with
    | [] => .conflict
    | l :: rest => if rest.all (fun l' => l' == l) then .unit l else .open_

def pass : List Clause → List Int → Bool → Option (List Int × Bool)
  | [], tr, grew => some (tr, grew)
  | c :: cs, tr, grew =>
    match status tr c with
    | .conflict => none
    | .unit l => pass cs (l :: tr) true
    | _ => pass cs tr grew

def propagatesToConflict (cs : List Clause) : Nat → List Int → Bool
  | 0, _ => false
  | fuel + 1, tr =>
    match pass cs tr false with
    | none => true
    | some (tr', grew) => if grew then propagatesToConflict cs fuel tr' else false

/-- `c` is a RUP consequence of `cs`: assuming all literals of `c` false leads to a conflict within
`cs.length + c.length + 1` passes. That this fuel reaches the fixpoint is proved nowhere (too little fuel
could only reject more); `rup_sound` holds for any fuel. -/
def rup (cs : List Clause) (c : Clause) : Bool :=
  propagatesToConflict cs (cs.length + c.length + 1) (c.map (fun l => -l))

def allTrue (a : Nat → Bool) (tr : List Int) : Prop := ∀ l ∈ tr, litHolds a l = true

def WfClause (c : Clause) : Prop := ∀ l ∈ c, l ≠ 0

theorem isFalse_sound (a : Nat → Bool) (tr : List Int) (l : Int) (hl : l ≠ 0) (ht : allTrue a tr)
    (h : isFalse tr l = true) : litHolds a l = false := by
  have := ht (-l) (List.contains_iff_mem.1 h)
  rwa [litHolds_neg a l hl, Bool.not_eq_true'] at this

theorem pass_sound (a : Nat → Bool) (cs : List Clause) (hw : ∀ c ∈ cs, WfClause c)
    (hcs : ∀ c ∈ cs, clauseHolds a c = true) (tr : List Int) (grew : Bool) (ht : allTrue a tr) :
    ∃ tr' g, pass cs tr grew = some (tr', g) ∧ allTrue a tr' := by
  induction cs generalizing tr grew with
  | nil => exact ⟨tr, grew, rfl, ht⟩
  | cons c cs ih =>
    have ih := ih (fun c' h => hw c' (List.mem_cons_of_mem _ h)) (fun c' h => hcs c' (List.mem_cons_of_mem _ h))
    obtain ⟨l, hl, hlt⟩ := List.any_eq_true.1 (hcs c (List.mem_cons_self ..))
    have hlive : (!isFalse tr l) = true := by
      cases hf : isFalse tr l with
      | false => rfl
      | true => rw [isFalse_sound a tr l (hw c (List.mem_cons_self ..) l hl) ht hf] at hlt; cases hlt
    obtain ⟨x, xs, e, hx⟩ := unit_rule (live := fun l => !isFalse tr l) (P := fun l => litHolds a l = true) hl hlive hlt
    -- with a live literal `status tr c` is no conflict: it is satisfied, open, or unit on `x`
    rw [pass, status, e]
    dsimp only
    cases c.any (isTrue tr)
    · cases hall : xs.all (fun l' => l' == x)
      · exact ih tr grew ht
      · exact ih (x :: tr) true fun y hy => (List.mem_cons.1 hy).elim (· ▸ hx hall) (ht y)
    · exact ih tr grew ht

theorem propagates_sound (a : Nat → Bool) (cs : List Clause) (hw : ∀ c ∈ cs, WfClause c)
    (hcs : cnfHolds a cs = true) (fuel : Nat) (tr : List Int) (ht : allTrue a tr) :
    propagatesToConflict cs fuel tr = false := by
  induction fuel generalizing tr with
  | zero => rfl
  | succ fuel ih =>
    obtain ⟨tr', grew, hpass, h2⟩ := pass_sound a cs hw (fun c hc => List.all_eq_true.1 hcs c hc) tr false ht
    rw [propagatesToConflict, hpass]
    cases grew
    · rfl
    · exact ih tr' h2

theorem rup_sound (cs : List Clause) (c : Clause) (hw : ∀ c' ∈ cs, WfClause c') (hwc : WfClause c)
    (h : rup cs c = true) (a : Nat → Bool) (hcs : cnfHolds a cs = true) : clauseHolds a c = true := by
  refine Decidable.byContradiction fun hc => ?_
  -- the negated literals of `c` all hold under `a`, so propagation from them meets no conflict
  have ht : allTrue a (c.map (fun l => -l)) := by
    intro l hl
    obtain ⟨l', hl', rfl⟩ := List.mem_map.1 hl
    rw [litHolds_neg a l' (hwc l' hl'), Bool.not_eq_true']
    exact Bool.eq_false_iff.2 fun hv => hc (List.any_eq_true.2 ⟨l', hl', hv⟩)
  rw [rup, propagates_sound a cs hw hcs _ _ ht] at h
  cases h

/-- `false` at the first lemma that is not RUP or when the lemmas run out, `true` at the first empty lemma
that is RUP. What follows that lemma is not looked at (with `rup cs [] = true`, `[[], [5]]` is accepted). -/
def checkProof (cs : List Clause) : List Clause → Bool
  | [] => false
  | lemma :: rest =>
    if rup cs lemma then
      (if lemma.isEmpty then true else checkProof (lemma :: cs) rest)
    else false

theorem checkProof_cons {cs : List Clause} {lem : Clause} {rest : List Clause}
    (h : checkProof cs (lem :: rest) = true) :
    rup cs lem = true ∧ (lem = [] ∨ checkProof (lem :: cs) rest = true) := by
  unfold checkProof at h
  split at h
  · rename_i hr
    refine ⟨hr, ?_⟩
    split at h
    · rename_i he; exact .inl (List.isEmpty_iff.1 he)
    · exact .inr h
  · cases h

theorem checkProof_sound (cs : List Clause) (proof : List Clause) (hw : ∀ c ∈ cs, WfClause c)
    (hwp : ∀ c ∈ proof, WfClause c) (h : checkProof cs proof = true) :
    ∀ a : Nat → Bool, cnfHolds a cs = false := by
  induction proof generalizing cs with
  | nil => cases h
  | cons lem rest ih =>
    obtain ⟨hr, hrest⟩ := checkProof_cons h
    have hwl := hwp lem (List.mem_cons_self ..)
    refine fun a => Bool.eq_false_iff.2 fun hcs => ?_
    -- the lemma holds wherever the formula does: it is not empty, and can be added to the formula
    have hl := rup_sound cs lem hw hwl hr a hcs
    rcases hrest with rfl | hrest
    · cases hl
    · have := ih (lem :: cs) (fun c hc => (List.mem_cons.1 hc).elim (· ▸ hwl) (hw c))
        (fun c hc => hwp c (List.mem_cons_of_mem _ hc)) hrest a
      rw [cnfHolds, List.all_cons, hl, Bool.true_and] at this
      exact Bool.false_ne_true (this.symm.trans hcs)

end Pumpkin.Rup
