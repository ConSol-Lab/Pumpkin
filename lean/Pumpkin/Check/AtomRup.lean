/-
Reverse unit propagation over *atomic predicates with domain semantics* (the derivation rule of
DRCP nogood steps): a clause is a disjunction of atoms `[x ≥ v]`, `[x ≤ v]`, `[x ≠ v]`, `[x = v]`;
the propagation state is the current value set of every variable, starting from the declared
domains. Asserting an atom filters its variable's value set; an atom is true / false when all /
no remaining values satisfy it.

`Doms`, `restrict`, `assume` are also the state and the writes of the propagator models and of the search.
-/
import Pumpkin.Spec.Basic
import Pumpkin.Spec.Lists

namespace Pumpkin.AtomRup

abbrev Doms := List (List Int)

def domOf (ds : Doms) (x : Nat) : List Int := ds.getD x []

def atomTrue (ds : Doms) (p : Atom) : Bool := (domOf ds p.var).all p.holdsVal
def atomFalse (ds : Doms) (p : Atom) : Bool := (domOf ds p.var).all (fun v => !p.holdsVal v)

def restrict : Doms → Nat → (Int → Bool) → Doms
  | [], _, _ => []
  | d :: ds, 0, f => d.filter f :: ds
  | d :: ds, x + 1, f => d :: restrict ds x f

def assume (ds : Doms) (p : Atom) : Doms := restrict ds p.var p.holdsVal

def hasEmpty (ds : Doms) : Bool := ds.any List.isEmpty

def wfAtom (n : Nat) (p : Atom) : Bool := decide (p.var < n)
def wfClause (n : Nat) (c : List Atom) : Bool := c.all (wfAtom n)

theorem wf_of_wfClause {n : Nat} {c : List Atom} (h : wfClause n c = true) : ∀ p ∈ c, p.var < n :=
  fun p hp => of_decide_eq_true (List.all_eq_true.1 h p hp)

inductive Status | satisfied | conflict | unit (p : Atom) | open_

def status (ds : Doms) (c : List Atom) : Status :=
  if c.any (atomTrue ds) then .satisfied
  else
    match c.filter (fun p => !atomFalse ds p) with
    | [] => .conflict
    | p :: rest => if rest.all (fun q => q == p) then .unit p else .open_

def pass : List (List Atom) → Doms → Bool → Option (Doms × Bool)
  | [], ds, grew => some (ds, grew)
  | c :: cs, ds, grew =>
    match status ds c with
    | .conflict => none
    | .unit p => pass cs (assume ds p) true
    | _ => pass cs ds grew

def propagatesToConflict (cs : List (List Atom)) : Nat → Doms → Bool
  | 0, _ => false
  | fuel + 1, ds =>
    if hasEmpty ds then true
    else
      match pass cs ds false with
      | none => true
      -- without a unit clause `ds' = ds`, which has no empty domain: the last branch is `false`
      | some (ds', grew) => if grew then propagatesToConflict cs fuel ds' else hasEmpty ds'

-- fuel: `cs.length + goal.length + 2` passes, fewer if a pass finds no unit clause. That they reach the fixpoint is
-- not proved: running out answers `false`, and `propagates_sound` holds for any fuel
def rup (doms : Doms) (cs : List (List Atom)) (goal : List Atom) : Bool :=
  propagatesToConflict cs (cs.length + goal.length + 2) (goal.foldl (fun ds p => assume ds p.neg) doms)

theorem inDoms_iff {ds : Doms} {a : List Int} :
    inDoms ds a = true ↔ a.length = ds.length ∧ ∀ x, x < ds.length → val a x ∈ domOf ds x := by
  induction ds generalizing a with
  | nil => cases a <;> simp [inDoms]
  | cons d ds ih =>
    cases a with
    | nil => simp [inDoms]
    | cons v vs =>
      rw [inDoms, Bool.and_eq_true, List.contains_iff_mem, ih, List.length_cons, List.length_cons,
        Nat.add_right_cancel_iff, Nat.forall_lt_succ_left]
      exact and_left_comm

theorem val_mem_of_inDoms {ds : Doms} {a : List Int} (h : inDoms ds a = true) {x : Nat}
    (hx : x < ds.length) : val a x ∈ domOf ds x := (inDoms_iff.1 h).2 x hx

theorem atomTrue_sound {ds : Doms} {a : List Int} (h : inDoms ds a = true) {p : Atom}
    (hw : p.var < ds.length) (ht : atomTrue ds p = true) : p.holds a = true := by
  have hm := val_mem_of_inDoms h hw
  exact List.all_eq_true.1 ht _ hm

theorem atomFalse_eq_false {ds : Doms} {a : List Int} (h : inDoms ds a = true) {p : Atom}
    (hw : p.var < ds.length) (hp : p.holds a = true) : atomFalse ds p = false :=
  List.all_eq_false.2 ⟨_, val_mem_of_inDoms h hw, ne_true_of_eq_false (congrArg not hp)⟩

theorem restrict_eq_modify (ds : Doms) (x : Nat) (f : Int → Bool) : restrict ds x f = ds.modify x (List.filter f) := by
  induction ds generalizing x with
  | nil => simp [restrict]
  | cons d r ih => cases x <;> simp [restrict, ih]

theorem restrict_eq_self {ds : Doms} {x : Nat} {f : Int → Bool} (h : ∀ v ∈ domOf ds x, f v = true) : restrict ds x f = ds := by
  induction ds generalizing x with
  | nil => rfl
  | cons l ds ih =>
    cases x with
    | zero => exact congrArg (· :: ds) (List.filter_eq_self.2 h)
    | succ x => exact congrArg (l :: ·) (ih h)

theorem restrict_length (ds : Doms) (x : Nat) (f : Int → Bool) : (restrict ds x f).length = ds.length := by
  rw [restrict_eq_modify, List.length_modify]

theorem domOf_restrict (ds : Doms) (x : Nat) (f : Int → Bool) (y : Nat) :
    domOf (restrict ds x f) y = if y = x then (domOf ds y).filter f else domOf ds y := by
  unfold domOf
  rw [restrict_eq_modify, List.getD_eq_getElem?_getD, List.getD_eq_getElem?_getD, List.getElem?_modify]
  -- at `some d`: `(if x = y then d.filter f else d) = if y = x then d.filter f else d`
  cases ds[y]? with
  | none => exact (ite_self _).symm
  | some d => exact ite_congr (propext eq_comm) (fun _ => rfl) (fun _ => rfl)

theorem inDoms_restrict_iff {ds : Doms} {a : List Int} (x : Nat) (f : Int → Bool) :
    inDoms (restrict ds x f) a = true ↔ inDoms ds a = true ∧ (x < ds.length → f (val a x) = true) := by
  simp only [inDoms_iff, restrict_length, domOf_restrict]
  constructor
  · rintro ⟨hl, h⟩
    refine ⟨⟨hl, fun y hy => ?_⟩, fun hx => ?_⟩
    · have := h y hy; split at this
      · exact (List.mem_filter.1 this).1
      · exact this
    · have := h x hx; rw [if_pos rfl] at this; exact (List.mem_filter.1 this).2
  · rintro ⟨⟨hl, h⟩, hf⟩
    refine ⟨hl, fun y hy => ?_⟩
    split
    · rename_i e; subst e; exact List.mem_filter.2 ⟨h y hy, hf hy⟩
    · exact h y hy

theorem inDoms_restrict {ds : Doms} {a : List Int} (h : inDoms ds a = true) (x : Nat) (f : Int → Bool)
    (hf : f (val a x) = true) : inDoms (restrict ds x f) a = true :=
  (inDoms_restrict_iff x f).2 ⟨h, fun _ => hf⟩

theorem inDoms_assume {ds : Doms} {a : List Int} (h : inDoms ds a = true) {p : Atom}
    (hp : p.holds a = true) : inDoms (assume ds p) a = true :=
  inDoms_restrict h p.var p.holdsVal hp

theorem assume_length (ds : Doms) (p : Atom) : (assume ds p).length = ds.length :=
  restrict_length ds p.var p.holdsVal

theorem not_hasEmpty_of_inDoms {ds : Doms} {a : List Int} (h : inDoms ds a = true) : hasEmpty ds = false := by
  refine List.any_eq_false.2 fun d hd he => ?_
  obtain ⟨x, hx, rfl⟩ := List.getElem_of_mem hd
  have := val_mem_of_inDoms h hx
  rw [domOf, List.getD_eq_getElem?_getD, List.getElem?_eq_getElem hx, Option.getD_some, List.isEmpty_iff.1 he] at this
  cases this

/-! From here on `p.var < a.length`: every `ds` with `inDoms ds a` has that length (`inDoms_length`), so the
bound need not be carried from one propagation state to the next. -/

theorem pass_sound {a : List Int} (cs : List (List Atom)) (ds : Doms) (grew : Bool)
    (h : inDoms ds a = true) (hw : ∀ c ∈ cs, ∀ p ∈ c, p.var < a.length)
    (hcs : ∀ c ∈ cs, c.any (·.holds a) = true) :
    ∃ ds' g, pass cs ds grew = some (ds', g) ∧ inDoms ds' a = true := by
  induction cs generalizing ds grew with
  | nil => exact ⟨ds, grew, rfl, h⟩
  | cons c cs ih =>
    have ih := fun ds g h => ih ds g h (fun c' hc' => hw c' (List.mem_cons_of_mem _ hc'))
      (fun c' hc' => hcs c' (List.mem_cons_of_mem _ hc'))
    obtain ⟨p, hp, hpt⟩ := List.any_eq_true.1 (hcs c (List.mem_cons_self ..))
    -- `p` is live; `!false` is `true` by computation
    obtain ⟨x, xs, e, hx⟩ := unit_rule (live := fun p => !atomFalse ds p) (P := fun p => p.holds a = true) hp
      (congrArg not (atomFalse_eq_false h (inDoms_length h ▸ hw c (List.mem_cons_self ..) p hp) hpt)) hpt
    -- with a live atom `status ds c` is no conflict: it is satisfied, open, or unit on `x`
    rw [pass, status, e]
    dsimp only
    cases c.any (atomTrue ds)
    · cases hall : xs.all (fun q => q == x)
      · exact ih ds grew h
      · exact ih (assume ds x) true (inDoms_assume h (hx hall))
    · exact ih ds grew h

theorem propagates_sound {a : List Int} (cs : List (List Atom)) (fuel : Nat) (ds : Doms)
    (h : inDoms ds a = true) (hw : ∀ c ∈ cs, ∀ p ∈ c, p.var < a.length)
    (hcs : ∀ c ∈ cs, c.any (·.holds a) = true) : propagatesToConflict cs fuel ds = false := by
  induction fuel generalizing ds with
  | zero => rfl
  | succ fuel ih =>
    obtain ⟨ds', grew, hpass, h2⟩ := pass_sound cs ds false h hw hcs
    rw [propagatesToConflict, not_hasEmpty_of_inDoms h, hpass]
    cases grew
    · exact not_hasEmpty_of_inDoms h2
    · exact ih ds' h2

theorem foldl_assume_neg {a : List Int} (goal : List Atom) (ds : Doms) (h : inDoms ds a = true)
    (hg : ∀ p ∈ goal, p.holds a = false) :
    inDoms (goal.foldl (fun ds p => assume ds p.neg) ds) a = true := by
  induction goal generalizing ds with
  | nil => exact h
  | cons p ps ih =>
    have hp : p.neg.holds a = true := by rw [Atom.neg_holds, hg p (List.mem_cons_self ..)]; rfl
    exact ih (assume ds p.neg) (inDoms_assume h hp) (fun q hq => hg q (List.mem_cons_of_mem _ hq))

theorem rup_sound (doms : Doms) (cs : List (List Atom)) (goal : List Atom)
    (hw : ∀ c ∈ cs, ∀ p ∈ c, p.var < doms.length) (h : rup doms cs goal = true)
    (a : List Int) (ha : inDoms doms a = true) (hcs : ∀ c ∈ cs, c.any (·.holds a) = true) :
    goal.any (·.holds a) = true := by
  -- otherwise `a` survives the assumption of the negated goal, and propagation cannot fail on it
  cases hg : goal.any (·.holds a) with
  | true => rfl
  | false =>
    have hgf : ∀ p ∈ goal, p.holds a = false := fun p hp =>
      Bool.eq_false_iff.2 fun hv => by rw [List.any_eq_true.2 ⟨p, hp, hv⟩] at hg; cases hg
    rw [rup, propagates_sound cs _ _ (foldl_assume_neg goal doms ha hgf) (inDoms_length ha ▸ hw) hcs] at h
    cases h

end Pumpkin.AtomRup
