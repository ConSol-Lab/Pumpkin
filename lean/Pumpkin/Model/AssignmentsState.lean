/-
The store as a whole (`Assignments`). Every sequence of operations keeps `Inv`: the domains are the replay
(`build`) of the trail. What holds of a reachable state is proved of any state with `Inv`, by induction
on the trail; `synchronise` cuts the trail back to a suffix and replays that.
-/
import Pumpkin.Model.AssignmentsSound

namespace Pumpkin.Asg

open IDom St

theorem getD_set_self {α} (l : List α) (i : Nat) (a d : α) (h : i < l.length) :
    (l.set i a).getD i d = a := by
  simp [List.getD, h]

theorem getD_set_ne {α} (l : List α) (i j : Nat) (a d : α) (h : i ≠ j) :
    (l.set i a).getD j d = l.getD j d := by
  simp [List.getD, List.getElem?_set_ne h]

theorem set_getD_self {α} (l : List α) (i : Nat) (d : α) (h : i < l.length) :
    l.set i (l.getD i d) = l := by
  simp [List.getD, h]

theorem getD_append_lt {α} (l1 l2 : List α) (i : Nat) (d : α) (h : i < l1.length) :
    (l1 ++ l2).getD i d = l1.getD i d := by
  simp [List.getD, List.getElem?_append_left h]

theorem getD_append_len {α} (l1 : List α) (a d : α) : (l1 ++ [a]).getD l1.length d = a := by
  simp [List.getD]

/-- the replay of one entry, `pos` its trail position (stamped on the update). `Entry.grow` is the model's
mark on the two entries `grow` pushes: `[x >= lo]` creates the domain, `[x <= hi]` does nothing. -/
def applyEntry (ds : List IDom) (e : Entry) (pos : Nat) : List IDom :=
  if e.grow then
    match e.atom with
    | .ge _ _ => ds ++ [IDom.new e.oldLb e.oldUb]
    | _ => ds
  else ds.set e.atom.var (applyAtom (ds.getD e.atom.var default) e.atom e.level pos)

def build : List Entry → List IDom
  | [] => []
  | e :: r => applyEntry (build r) e r.length

/-- a creation entry `[x >= lo]` names the next variable, its partner `[x <= hi]` sits right above it;
every other entry is a real change -/
def WF : List Entry → Prop
  | [] => True
  | e :: r => WF r ∧
    (if e.grow then
      e.level = 0 ∧
      (e.atom = .ge (build r).length e.oldLb ∨
       (∃ r', r = ⟨.ge (build r').length e.oldLb, e.oldLb, e.oldUb, 0, true⟩ :: r' ∧
          e.atom = .le (build r').length e.oldUb))
     else
      e.atom.var < (build r).length ∧ changes ((build r).getD e.atom.var default) e.atom = true)

theorem wf_tail {e : Entry} {r : List Entry} (h : WF (e :: r)) : WF r := h.1

/-- either creation entry stands for the whole declared interval, since a well-formed trail may end
between the two -/
def Entry.allows (e : Entry) (v : Int) : Prop :=
  if e.grow then e.oldLb ≤ v ∧ v ≤ e.oldUb else e.atom.holdsVal v = true

theorem applyAtom_of_not_changes (d : IDom) (p : Atom) (l pos : Nat) (h : changes d p = false) :
    applyAtom d p l pos = d := by
  cases p with
  | ge x k => exact if_pos (by simpa [changes] using h)
  | le x k => exact if_pos (by simpa [changes] using h)
  | ne x k => exact removeValue_of_not_mem d k l pos (by rw [← contains_iff]; simpa [changes] using h)
  | eq x k => rfl

theorem changes_ne_eq {d : IDom} {p : Atom} (h : changes d p = true) (y : Nat) (k : Int) : p ≠ .eq y k := by
  rintro rfl; cases h

theorem applyAtom_mem (d : IDom) (p : Atom) (l pos : Nat) (v : Int) (h : ∀ y k, p ≠ .eq y k) :
    (applyAtom d p l pos).mem v ↔ d.mem v ∧ p.holdsVal v = true := by
  cases p with
  | ge x k => simp [applyAtom, setLb_mem, Atom.holdsVal]
  | le x k => simp [applyAtom, setUb_mem, Atom.holdsVal]
  | ne x k => simp [applyAtom, removeValue_mem, Atom.holdsVal]
  | eq x k => exact absurd rfl (h x k)

theorem undo_applyAtom (d : IDom) (p : Atom) (l pos : Nat) (h : changes d p = true) :
    (applyAtom d p l pos).undo p = d := by
  cases p with
  | ge x k => exact undo_setLb d x k l pos (by simpa [changes] using h)
  | le x k => exact undo_setUb d x k l pos (by simpa [changes] using h)
  | ne x k => exact undo_removeValue d x k l pos (by simpa [changes] using h)
  | eq x k => simp [changes] at h

theorem applyAtom_tight (d : IDom) (p : Atom) (l pos : Nat) (h : d.Tight) : (applyAtom d p l pos).Tight := by
  cases p with
  | ge x k => exact setLb_tight d k l pos h
  | le x k => exact setUb_tight d k l pos h
  | ne x k => exact removeValue_tight d k l pos h
  | eq x k => exact h

theorem build_cons_cases {e : Entry} {r : List Entry} (h : WF (e :: r)) :
    (e.grow = true ∧ e.level = 0 ∧ e.atom = .ge (build r).length e.oldLb ∧
      build (e :: r) = build r ++ [IDom.new e.oldLb e.oldUb]) ∨
    (e.grow = true ∧ e.level = 0 ∧ (∃ r', r = ⟨.ge (build r').length e.oldLb, e.oldLb, e.oldUb, 0, true⟩ :: r' ∧
      e.atom = .le (build r').length e.oldUb) ∧ build (e :: r) = build r) ∨
    (e.grow = false ∧ e.atom.var < (build r).length ∧
      changes ((build r).getD e.atom.var default) e.atom = true ∧
      build (e :: r) = (build r).set e.atom.var
        (applyAtom ((build r).getD e.atom.var default) e.atom e.level r.length)) := by
  obtain ⟨_, he⟩ := h
  cases hg : e.grow
  · simp only [hg, Bool.false_eq_true, if_false] at he
    exact .inr (.inr ⟨rfl, he.1, he.2, by simp [build, applyEntry, hg]⟩)
  · simp only [hg, if_true] at he
    rcases he.2 with h1 | ⟨r', h1, h2⟩
    · exact .inl ⟨rfl, he.1, h1, by simp [build, applyEntry, hg, h1]⟩
    · exact .inr (.inl ⟨rfl, he.1, ⟨r', h1, h2⟩, by simp [build, applyEntry, hg, h2]⟩)

theorem build_length_le (e : Entry) (r : List Entry) : (build r).length ≤ (build (e :: r)).length := by
  simp only [build, applyEntry]
  split
  · split <;> simp
  · simp

theorem wf_var_lt : ∀ (t : List Entry), WF t → ∀ e ∈ t, e.atom.var < (build t).length := by
  intro t
  induction t with
  | nil => intro _ e he; cases he
  | cons a r ih =>
    intro hwf e he
    rcases List.mem_cons.1 he with rfl | her
    · rcases build_cons_cases hwf with ⟨_, _, h1, hb⟩ | ⟨_, _, ⟨r', h1, h2⟩, hb⟩ | ⟨_, hv, _, hb⟩ <;> rw [hb]
      · simp [h1, Atom.var]
      · -- the partner's `.var` and that of the creation entry, the head of `r` (`h1`), reduce to the same
        rw [h2]; exact ih hwf.1 _ (h1 ▸ List.mem_cons_self ..)
      · simpa using hv
    · exact Nat.lt_of_lt_of_le (ih hwf.1 e her) (build_length_le a r)

/-- the first argument of `P` is the length of the trail -/
theorem build_forall {P : Nat → IDom → Prop} (mono : ∀ n d, P n d → P (n + 1) d)
    (new : ∀ n lo hi, P (n + 1) (IDom.new lo hi))
    (step : ∀ n d a l, P n d → P (n + 1) (applyAtom d a l n)) :
    ∀ (t : List Entry), WF t → ∀ x, x < (build t).length → P t.length ((build t).getD x default) := by
  intro t
  induction t with
  | nil => intro _ x hx; cases hx
  | cons e r ih =>
    intro hwf x hx
    rcases build_cons_cases hwf with ⟨_, _, _, hb⟩ | ⟨_, _, _, hb⟩ | ⟨_, _, _, hb⟩ <;> rw [hb] at hx ⊢
    · rw [List.length_append, List.length_singleton] at hx
      rcases Nat.lt_succ_iff_lt_or_eq.1 hx with hxl | rfl
      · rw [getD_append_lt _ _ _ _ hxl]; exact mono _ _ (ih hwf.1 x hxl)
      · rw [getD_append_len]; exact new _ _ _
    · exact mono _ _ (ih hwf.1 x hx)
    · rw [List.length_set] at hx
      by_cases hxe : e.atom.var = x
      · subst hxe; rw [getD_set_self _ _ _ _ hx]; exact step _ _ _ _ (ih hwf.1 _ hx)
      · rw [getD_set_ne _ _ _ _ _ hxe]; exact mono _ _ (ih hwf.1 x hx)

theorem build_mem_iff : ∀ (t : List Entry), WF t → ∀ x, x < (build t).length → ∀ v,
    ((build t).getD x default).mem v ↔ ∀ e ∈ t, e.atom.var = x → e.allows v := by
  intro t
  induction t with
  | nil => intro _ x hx; cases hx
  | cons e r ih =>
    intro hwf x hx v
    simp only [List.forall_mem_cons]
    rcases build_cons_cases hwf with ⟨hg, _, h1, hb⟩ | ⟨hg, _, ⟨r', h1, h2⟩, hb⟩ | ⟨hg, hv, hc, hb⟩ <;>
      rw [hb] at hx ⊢
    · rw [List.length_append, List.length_singleton] at hx
      rcases Nat.lt_succ_iff_lt_or_eq.1 hx with hxl | rfl
      · rw [getD_append_lt _ _ _ _ hxl, ih hwf.1 x hxl v]
        have : e.atom.var ≠ x := by rw [h1]; exact Nat.ne_of_gt hxl
        exact ⟨fun h => ⟨fun hv => absurd hv this, h⟩, And.right⟩
      · have hnone : ∀ e' ∈ r, e'.atom.var = (build r).length → e'.allows v := fun e' he' hv =>
          absurd hv (Nat.ne_of_lt (wf_var_lt r hwf.1 e' he'))
        have hv : e.atom.var = (build r).length := by rw [h1]; rfl
        have hm : (IDom.new e.oldLb e.oldUb).mem v ↔ e.allows v := by
          simp [Entry.allows, hg, mem, new, IDom.lb, IDom.ub, hole]
        rw [getD_append_len, hm]
        exact ⟨fun h => ⟨fun _ => h, hnone⟩, fun h => h.1 hv⟩
    · -- the partner says what the creation entry below it says
      rw [ih hwf.1 x hx v]
      refine ⟨fun h => ⟨fun hv => ?_, h⟩, And.right⟩
      have hp := h ⟨.ge (build r').length e.oldLb, e.oldLb, e.oldUb, 0, true⟩ (by rw [h1]; simp)
        (by rw [← hv, h2]; rfl)
      simpa [Entry.allows, hg] using hp
    · rw [List.length_set] at hx
      by_cases hxe : e.atom.var = x
      · subst hxe
        rw [getD_set_self _ _ _ _ hx, applyAtom_mem _ _ _ _ _ (changes_ne_eq hc), ih hwf.1 _ hx v]
        simp [Entry.allows, hg, and_comm]
      · rw [getD_set_ne _ _ _ _ _ hxe, ih hwf.1 x hx v]
        simp [hxe]

/-- `sorted`: levels do not increase towards older entries, so `synchronise`, which stops popping at the
first entry not above `k`, leaves none above `k` (`inv_sync`) -/
structure Inv (s : St) : Prop where
  wf : WF s.trail
  doms : s.doms = build s.trail
  lvl : ∀ e ∈ s.trail, e.level ≤ s.level
  sorted : s.trail.Pairwise (fun a b => b.level ≤ a.level)

theorem inv_empty : Inv St.empty := ⟨trivial, rfl, (by intro e he; cases he), List.Pairwise.nil⟩

theorem Inv.push {s : St} (h : Inv s) {e : Entry} (hw : WF (e :: s.trail)) (he : e.level = s.level) :
    Inv ⟨build (e :: s.trail), e :: s.trail, s.level⟩ := by
  refine ⟨hw, rfl, fun e' he' => ?_, List.pairwise_cons.2 ⟨fun e' he' => he ▸ h.lvl e' he', h.sorted⟩⟩
  rcases List.mem_cons.1 he' with rfl | he'
  · exact Nat.le_of_eq he
  · exact h.lvl e' he'

theorem inv_grow (s : St) (h : Inv s) (lo hi : Int) (hl : s.level = 0) : Inv (s.grow lo hi) := by
  have hd := h.doms
  -- `St.grow` is the state of `h2` once `build` is unfolded
  have h1 := h.push (e := ⟨.ge s.doms.length lo, lo, hi, s.level, true⟩)
    ⟨h.wf, by simp only [if_true]; exact ⟨hl, .inl (by rw [hd])⟩⟩ rfl
  have h2 := h1.push (e := ⟨.le s.doms.length hi, lo, hi, s.level, true⟩)
    ⟨h1.wf, by simp only [if_true]; exact ⟨hl, .inr ⟨s.trail, by rw [hd, hl], by rw [hd]⟩⟩⟩ rfl
  simpa [St.grow, build, applyEntry, hd] using h2

theorem postSimple_cases (s : St) (p : Atom) :
    (changes (s.dom p.var) p = false ∧ s.postSimple p = s) ∨
    (changes (s.dom p.var) p = true ∧
      s.postSimple p = ⟨s.doms.set p.var (applyAtom (s.dom p.var) p s.level s.trail.length),
        s.entryFor p :: s.trail, s.level⟩) := by
  unfold St.postSimple
  cases h : changes (s.dom p.var) p
  · exact .inl ⟨rfl, by simp [h]⟩
  · exact .inr ⟨rfl, by simp [h, St.setDom]⟩

theorem inv_postSimple (s : St) (h : Inv s) (p : Atom) (hp : p.var < s.doms.length) :
    Inv (s.postSimple p) := by
  rcases postSimple_cases s p with ⟨_, h1⟩ | ⟨hc, h1⟩ <;> rw [h1]
  · exact h
  · have hd := h.doms
    -- `build` on a non-grow entry unfolds to the `set` of the goal
    have := h.push (e := s.entryFor p) ⟨h.wf, by rw [← hd]; exact ⟨hp, hc⟩⟩ rfl
    simp only [build, applyEntry, St.entryFor, Bool.false_eq_true, if_false, ← hd] at this
    exact this

theorem postSimple_level (s : St) (p : Atom) : (s.postSimple p).level = s.level := by
  rcases postSimple_cases s p with ⟨_, h1⟩ | ⟨_, h1⟩ <;> rw [h1]

theorem postSimple_length (s : St) (p : Atom) : (s.postSimple p).doms.length = s.doms.length := by
  rcases postSimple_cases s p with ⟨_, h1⟩ | ⟨_, h1⟩ <;> rw [h1]; simp

theorem postSimple_of_not_changes (s : St) (p : Atom) (h : changes (s.dom p.var) p = false) :
    s.postSimple p = s := by
  rcases postSimple_cases s p with ⟨_, h1⟩ | ⟨hc, _⟩
  · exact h1
  · rw [h] at hc; cases hc

/-- the guards in front of the two halves of `[x == v]` in `post_predicate` repeat the test `postSimple`
makes itself -/
theorem post_eq (s : St) (x : Nat) (v : Int) :
    (s.post (.eq x v)).1 =
      if s.lb x < v ∧ !((s.postSimple (.ge x v)).dom x).consistent then s.postSimple (.ge x v)
      else (s.postSimple (.ge x v)).postSimple (.le x v) := by
  -- `changes (t.dom x) (.ge x v)` unfolds to `decide (t.lb x < v)`: that is the `decide_eq_false ‹_›` below
  have h1 : ∀ t : St, (if t.lb x < v then t.postSimple (.ge x v) else t) = t.postSimple (.ge x v) := by
    intro t; split
    · rfl
    · exact (postSimple_of_not_changes t (.ge x v) (decide_eq_false ‹_›)).symm
  have h2 : ∀ t : St, (if t.ub x > v then t.postSimple (.le x v) else t) = t.postSimple (.le x v) := by
    intro t; split
    · rfl
    · exact (postSimple_of_not_changes t (.le x v) (decide_eq_false ‹_›)).symm
  unfold St.post
  simp only [h1, h2]
  split <;> rfl

theorem post_induct {P : St → Prop} (s : St) (p : Atom) (hp : p.var < s.doms.length) (h0 : P s)
    (hs : ∀ t q, P t → q.var < t.doms.length → P (t.postSimple q)) : P (s.post p).1 := by
  cases p with
  | eq x v =>
    rw [post_eq]
    split
    · exact hs _ _ h0 hp
    · exact hs _ _ (hs _ _ h0 hp) (by rw [postSimple_length]; exact hp)
  | ge x v => exact hs _ _ h0 hp
  | le x v => exact hs _ _ h0 hp
  | ne x v => exact hs _ _ h0 hp

theorem inv_post (s : St) (h : Inv s) (p : Atom) (hp : p.var < s.doms.length) : Inv (s.post p).1 :=
  post_induct s p hp h fun t q ht hq => inv_postSimple t ht q hq

theorem inv_newLevel (s : St) (h : Inv s) : Inv s.newLevel :=
  ⟨h.wf, h.doms, fun e he => Nat.le_succ_of_le (h.lvl e he), h.sorted⟩

theorem unwind_build (k : Nat) : ∀ (t : List Entry), WF t →
    unwind k t (build t) = (t.dropWhile (fun e => decide (k < e.level)),
      build (t.dropWhile (fun e => decide (k < e.level)))) := by
  intro t
  induction t with
  | nil => intro _; rfl
  | cons e r ih =>
    intro hwf
    by_cases hk : k < e.level
    · -- an entry above level 0 is a change of its variable, which `undo` takes back
      rcases build_cons_cases hwf with ⟨_, h0, _⟩ | ⟨_, h0, _⟩ | ⟨_, hv, hc, hb⟩
      · exact absurd (h0 ▸ hk) (Nat.not_lt_zero k)
      · exact absurd (h0 ▸ hk) (Nat.not_lt_zero k)
      · simp only [unwind, hk, if_true, List.dropWhile_cons, decide_true]
        rw [hb, getD_set_self _ _ _ _ hv, undo_applyAtom _ _ _ _ hc, List.set_set, set_getD_self _ _ _ hv]
        exact ih hwf.1
    · simp [unwind, hk]

theorem wf_dropWhile (P : Entry → Bool) : ∀ (t : List Entry), WF t → WF (t.dropWhile P) := by
  intro t
  induction t with
  | nil => intro h; exact h
  | cons e r ih =>
    intro h
    simp only [List.dropWhile_cons]
    split
    · exact ih h.1
    · exact h

theorem sync_eq (s : St) (h : Inv s) (k : Nat) :
    s.sync k = ⟨build (s.trail.dropWhile (fun e => decide (k < e.level))),
      s.trail.dropWhile (fun e => decide (k < e.level)), k⟩ := by
  simp only [St.sync, h.doms, unwind_build k s.trail h.wf]

theorem inv_sync (s : St) (h : Inv s) (k : Nat) : Inv (s.sync k) := by
  rw [sync_eq s h k]
  have hso := h.sorted.sublist (List.dropWhile_sublist (fun e => decide (k < e.level)))
  refine ⟨wf_dropWhile _ _ h.wf, rfl, ?_, hso⟩
  have hd := List.head?_dropWhile_not (fun e => decide (k < e.level)) s.trail
  generalize s.trail.dropWhile (fun e => decide (k < e.level)) = l at hso hd
  cases l with
  | nil => intro e he; cases he
  | cons a r =>
    have ha : a.level ≤ k := by simpa using hd
    intro e he
    rcases List.mem_cons.1 he with rfl | her
    · exact ha
    · exact Nat.le_trans ((List.pairwise_cons.1 hso).1 e her) ha

theorem inv_step (s : St) (h : Inv s) (o : Op) (ho : o.ok s = true) : Inv (step s o) := by
  cases o with
  | grow lo hi =>
    simp only [Op.ok, Bool.and_eq_true, beq_iff_eq, decide_eq_true_eq] at ho
    exact inv_grow s h lo hi ho.1
  | post p =>
    simp only [Op.ok, decide_eq_true_eq] at ho
    exact inv_post s h p ho
  | newLevel => exact inv_newLevel s h
  | sync k => exact inv_sync s h k

theorem run_induct {P : St → Prop} {Q : Op → Prop}
    (hs : ∀ t o, P t → Q o → o.ok t = true → P (step t o)) :
    ∀ (ops : List Op) (t : St), (∀ o ∈ ops, Q o) → P t → P (run t ops) := by
  intro ops
  induction ops with
  | nil => intro t _ h; exact h
  | cons o r ih =>
    intro t hq h
    have hr : ∀ o ∈ r, Q o := fun o ho => hq o (List.mem_cons_of_mem _ ho)
    simp only [run]
    split
    · rename_i ho; exact ih _ hr (hs t o h (hq o (List.mem_cons_self ..)) ho)
    · exact ih _ hr h

theorem inv_run : ∀ (ops : List Op) (s : St), Inv s → Inv (run s ops) := fun ops s h =>
  run_induct (Q := fun _ => True) (fun t o ht _ ho => inv_step t ht o ho) ops s (fun _ _ => trivial) h

theorem Inv.tight {s : St} (h : Inv s) {x : Nat} (hx : x < s.doms.length) : (s.dom x).Tight := by
  rw [St.dom, h.doms]
  exact build_forall (P := fun _ d => d.Tight) (mono := fun _ _ h => h) (new := fun _ => tight_new)
    (step := fun _ d a l => applyAtom_tight d a l _) _ h.wf x (h.doms ▸ hx)

theorem Inv.mem_iff_trail {s : St} (h : Inv s) {x : Nat} (hx : x < s.doms.length) (v : Int) :
    s.contains x v = true ↔ ∀ e ∈ s.trail, e.atom.var = x → e.allows v := by
  rw [St.contains, contains_iff, St.dom, h.doms]
  exact build_mem_iff _ h.wf x (h.doms ▸ hx) v

theorem Inv.bounds_tight {s : St} (h : Inv s) {x : Nat} (hx : x < s.doms.length) (hne : s.lb x ≤ s.ub x) :
    s.contains x (s.lb x) = true ∧ s.contains x (s.ub x) = true ∧
    ∀ v, s.contains x v = true → s.lb x ≤ v ∧ v ≤ s.ub x := by
  have hm := tight_bounds_mem _ (h.tight hx) hne
  refine ⟨(contains_iff _ _).2 hm.1, (contains_iff _ _).2 hm.2, fun v hv => ?_⟩
  have := (contains_iff _ _).1 hv
  exact ⟨this.1, this.2.1⟩

theorem mem_iff_trail (ops : List Op) (x : Nat) (v : Int)
    (hx : x < (run St.empty ops).doms.length) :
    (run St.empty ops).contains x v = true ↔
      ∀ e ∈ (run St.empty ops).trail, e.atom.var = x → e.allows v :=
  (inv_run ops _ inv_empty).mem_iff_trail hx v

theorem bounds_tight (ops : List Op) (x : Nat) (hx : x < (run St.empty ops).doms.length)
    (hne : (run St.empty ops).lb x ≤ (run St.empty ops).ub x) :
    (run St.empty ops).contains x ((run St.empty ops).lb x) = true ∧
    (run St.empty ops).contains x ((run St.empty ops).ub x) = true ∧
    ∀ v, (run St.empty ops).contains x v = true →
      (run St.empty ops).lb x ≤ v ∧ v ≤ (run St.empty ops).ub x :=
  (inv_run ops _ inv_empty).bounds_tight hx hne

theorem dropWhile_dropWhile_of_imp {α} {p q : α → Bool} (h : ∀ a, p a = true → q a = true) (l : List α) :
    (l.dropWhile p).dropWhile q = l.dropWhile q := by
  induction l with
  | nil => rfl
  | cons a r ih =>
    by_cases hp : p a = true
    · rw [List.dropWhile_cons_of_pos hp, List.dropWhile_cons_of_pos (h a hp), ih]
    · rw [List.dropWhile_cons_of_neg hp]

/-- `t` is `s` plus some work above `s`'s level: synchronising to that level would leave `s`'s trail -/
structure Above (s t : St) : Prop where
  inv : Inv t
  lvl : s.level < t.level
  trail : t.trail.dropWhile (fun e => decide (s.level < e.level)) = s.trail

theorem above_postSimple (s t : St) (h : Above s t) (p : Atom) (hp : p.var < t.doms.length) :
    Above s (t.postSimple p) := by
  refine ⟨inv_postSimple t h.inv p hp, (postSimple_level t p).symm ▸ h.lvl, ?_⟩
  rcases postSimple_cases t p with ⟨_, e1⟩ | ⟨_, e1⟩ <;> rw [e1]
  · exact h.trail
  · have he : decide (s.level < (t.entryFor p).level) = true := decide_eq_true h.lvl
    show (t.entryFor p :: t.trail).dropWhile _ = _
    rw [List.dropWhile_cons, if_pos he]
    exact h.trail

theorem above_post (s t : St) (h : Above s t) (p : Atom) (hp : p.var < t.doms.length) :
    Above s (t.post p).1 :=
  post_induct t p hp h fun u q hu hq => above_postSimple s u hu q hq

theorem above_sync (s t : St) (h : Above s t) (k : Nat) (hk : s.level < k) : Above s (t.sync k) := by
  refine ⟨inv_sync t h.inv k, ?_, ?_⟩ <;> rw [sync_eq t h.inv k]
  · exact hk
  · -- what `sync k` pops, `sync s.level` would pop as well: `s.level < k < e.level`
    exact (dropWhile_dropWhile_of_imp
      (fun e he => decide_eq_true (Nat.lt_trans hk (of_decide_eq_true he))) _).trans h.trail

/-- **Backtracking restores the state exactly**, update lists, trail and all; the operations in between
may empty a domain, open further levels, and backtrack to levels above `s`'s. -/
theorem sync_restores (s : St) (hs : Inv s) (ops : List Op)
    (hops : ∀ k, Op.sync k ∈ ops → s.level < k) :
    (run s.newLevel ops).sync s.level = s := by
  have h : Above s (run s.newLevel ops) := by
    refine run_induct (Q := fun o => ∀ k, o = .sync k → s.level < k) ?_ ops _
      (fun o ho k hk => hops k (hk ▸ ho)) ⟨inv_newLevel s hs, Nat.lt_succ_self _, ?_⟩
    · intro t o h hq ho
      cases o with
      | grow lo hi =>
        simp only [Op.ok, Bool.and_eq_true, beq_iff_eq] at ho
        -- `grow` is admitted at level 0 only, and `t` is above `s`
        exact absurd (ho.1 ▸ h.lvl) (Nat.not_lt_zero _)
      | post p => exact above_post s t h p (by simpa [Op.ok] using ho)
      | newLevel => exact ⟨inv_newLevel t h.inv, Nat.lt_succ_of_lt h.lvl, h.trail⟩
      | sync k => exact above_sync s t h k (hq k rfl)
    · show s.trail.dropWhile _ = s.trail
      cases ht : s.trail with
      | nil => rfl
      | cons e r =>
        have hle : e.level ≤ s.level := hs.lvl e (ht ▸ List.mem_cons_self ..)
        exact List.dropWhile_cons_of_neg fun h => Nat.not_lt.2 hle (of_decide_eq_true h)
  rw [sync_eq _ h.inv, h.trail, ← hs.doms]

/-- where `postSimple` returns early because the predicate is no change, applying it would have changed
nothing -/
theorem postSimple_dom (s : St) (p : Atom) (hp : p.var < s.doms.length) (x : Nat) :
    (s.postSimple p).dom x =
      if p.var = x then applyAtom (s.dom x) p s.level s.trail.length else s.dom x := by
  rcases postSimple_cases s p with ⟨hc, e1⟩ | ⟨_, e1⟩ <;> rw [e1] <;> split
  · subst x; exact (applyAtom_of_not_changes _ _ _ _ hc).symm
  · rfl
  · subst x; exact getD_set_self _ _ _ _ hp
  · exact getD_set_ne _ _ _ _ _ ‹_›

theorem postSimple_contains (s : St) (p : Atom) (hp : p.var < s.doms.length) (hne : ∀ y k, p ≠ .eq y k)
    (x : Nat) (v : Int) :
    (s.postSimple p).contains x v = true ↔
      s.contains x v = true ∧ (x = p.var → p.holdsVal v = true) := by
  rw [St.contains, postSimple_dom s p hp]
  split
  · subst x
    rw [contains_iff, applyAtom_mem _ _ _ _ _ hne, ← contains_iff]
    exact ⟨fun h => ⟨h.1, fun _ => h.2⟩, fun h => ⟨h.1, h.2 rfl⟩⟩
  · exact ⟨fun h => ⟨h, fun h' => absurd h'.symm ‹_›⟩, And.left⟩

/-- **`post_predicate` removes exactly the values the predicate excludes**, for `[x == v]` also when
the upper-bound half is skipped. -/
theorem post_contains (s : St) (p : Atom) (hp : p.var < s.doms.length) (x : Nat) (v : Int) :
    (s.post p).1.contains x v = true ↔
      s.contains x v = true ∧ (x = p.var → p.holdsVal v = true) := by
  cases p with
  | ge y k => exact postSimple_contains s _ hp (hne := nofun) x v
  | le y k => exact postSimple_contains s _ hp (hne := nofun) x v
  | ne y k => exact postSimple_contains s _ hp (hne := nofun) x v
  | eq y k =>
    have hge := postSimple_contains s (.ge y k) hp (hne := nofun) x v
    have hle := postSimple_contains (s.postSimple (.ge y k)) (.le y k)
      (by rw [postSimple_length]; exact hp) (hne := nofun) x v
    simp only [Atom.var, Atom.holdsVal, decide_eq_true_eq] at hge hle ⊢
    rw [post_eq]
    split
    · -- the lower-bound half has emptied the domain of `y`: nothing is left to take away
      rename_i hinc
      simp only [Bool.not_eq_true', consistent, decide_eq_false_iff_not, Int.not_le] at hinc
      rw [hge]
      -- goal: `contains s x v ∧ (x = y → k ≤ v) ↔ contains s x v ∧ (x = y → v = k)`; only `→` needs work
      refine ⟨fun h => ⟨h.1, ?_⟩, fun h => ⟨h.1, fun hx => Int.le_of_eq (h.2 hx).symm⟩⟩
      rintro rfl
      have hm := (contains_iff _ _).1 (hge.2 h)
      exact absurd (Int.le_trans hm.1 hm.2.1) (Int.not_le.2 hinc.2)
    · rw [hle, hge]
      -- goal: `(contains s x v ∧ (x = y → k ≤ v)) ∧ (x = y → v ≤ k) ↔ contains s x v ∧ (x = y → v = k)`
      exact ⟨fun h => ⟨h.1.1, fun hx => Int.le_antisymm (h.2 hx) (h.1.2 hx)⟩,
        fun h => ⟨⟨h.1, fun hx => Int.le_of_eq (h.2 hx).symm⟩, fun hx => Int.le_of_eq (h.2 hx)⟩⟩

end Pumpkin.Asg
