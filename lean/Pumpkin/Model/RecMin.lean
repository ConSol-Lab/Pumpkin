/-
Model of the recursive nogood minimiser
(`pumpkin-solver/src/engine/conflict_analysis/minimisers/recursive_minimiser.rs`:
`remove_dominated_predicates`, `initialise_minimisation_data_structures`, `compute_label`).

Predicates are opaque (natural numbers). What the solver knows about a predicate is `Info`: its
decision level, whether it is a decision, and the antecedents of its reason which are not
root-level (root-level antecedents are skipped by `compute_label`). The label table is a function
`Nat → Option Label` (the Rust `HashMap<Predicate, Option<Label>>`), `allowed` the set of allowed
decision levels. `limit` is the recursion depth at which `compute_label` gives up (500 in the
solver); `computeLabel` recurses structurally on `limit - depth + 1`.

The state also carries the trace of `compute_label` calls (predicate, outcome), which the
correspondence run compares call by call with the trace recorded from the real minimiser.
-/
namespace Pumpkin.RecMin

inductive Label | seen | poison | removable | keep
deriving DecidableEq, Repr

structure Info where
  level : Nat
  isDecision : Bool
  /-- antecedents of the reason which are not root-level, in the order of the reason -/
  reason : List Nat
deriving Repr

structure Ctx where
  info : Nat → Info
  /-- recursion depth at which a predicate is given up (labelled Poison) -/
  limit : Nat
  /-- the current decision level -/
  curLevel : Nat

abbrev Tbl := Nat → Option Label

def Tbl.set (t : Tbl) (p : Nat) (l : Label) : Tbl := fun q => if q = p then some l else t q

structure St where
  tbl : Tbl := fun _ => none
  /-- calls of `compute_label`, most recent first: predicate and outcome (0 label already computed,
  1 depth limit, 2 decision, 3 decision level not allowed, 4 reason requested) -/
  trace : List (Nat × Nat) := []

def St.assign (st : St) (p : Nat) (l : Label) : St := { st with tbl := st.tbl.set p l }
def St.visit (st : St) (p code : Nat) : St := { st with trace := (p, code) :: st.trace }

/-- `is_predicate_label_already_computed` -/
def computed (t : Tbl) (p : Nat) : Bool :=
  match t p with
  | some .seen => false
  | some _ => true
  | none => false

/-- the loop over the antecedents in `compute_label`; `rec` is `compute_label` one level deeper -/
def loop (rec : St → Nat → St) (p : Nat) : St → List Nat → St
  | st, [] => st.assign p .removable
  | st, a :: rest =>
    let st' := rec st a
    if st'.tbl a = some .poison then
      -- `is_predicate_assigned_seen(input_predicate)`: part of the original nogood → Keep
      if st'.tbl p = some .seen then st'.assign p .keep else st'.assign p .poison
    else loop rec p st' rest

/-- `compute_label` at depth `limit - fuel + 1` (after the increment of `current_depth`). Called with
`limit ≥ 1` it never gets to fuel 0: at fuel 1 it gives up without recursing. -/
def computeLabel (ctx : Ctx) (allowed : List Nat) : Nat → St → Nat → St
  | 0 => fun st _ => st
  | fuel + 1 => fun st p =>
    if computed st.tbl p then st.visit p 0
    else if fuel = 0 then (st.visit p 1).assign p .poison
    else if (ctx.info p).isDecision then (st.visit p 2).assign p .poison
    else if !allowed.contains (ctx.info p).level then (st.visit p 3).assign p .poison
    else loop (computeLabel ctx allowed fuel) p (st.visit p 4) (ctx.info p).reason

/-- `initialise_minimisation_data_structures` -/
def initOne (ctx : Ctx) (acc : St × List Nat) (p : Nat) : St × List Nat :=
  if (ctx.info p).level = ctx.curLevel then (acc.1.assign p .keep, acc.2)
  else
    ((if (ctx.info p).isDecision then acc.1.assign p .keep else acc.1.assign p .seen),
     (ctx.info p).level :: acc.2)

def init (ctx : Ctx) (nogood : List Nat) : St × List Nat := nogood.foldl (initOne ctx) ({}, [])

/-- the main loop of `remove_dominated_predicates`: the kept predicates, in order. Poison counts like
Keep: a predicate of the nogood which is first reached as an antecedent, at the depth limit, gets Poison. -/
def sweep (ctx : Ctx) (allowed : List Nat) : St → List Nat → St × List Nat
  | st, [] => (st, [])
  | st, p :: rest =>
    let st' := computeLabel ctx allowed ctx.limit st p
    let r := sweep ctx allowed st' rest
    if st'.tbl p = some .poison ∨ st'.tbl p = some .keep then (r.1, p :: r.2) else r

/-- `remove_dominated_predicates`: final state (for the trace) and the minimised nogood -/
def removeDominated (ctx : Ctx) (nogood : List Nat) : St × List Nat :=
  let i := init ctx nogood
  sweep ctx i.2 i.1 nogood

@[simp] theorem set_same (t : Tbl) (p : Nat) (l : Label) : (t.set p l) p = some l := by simp [Tbl.set]
theorem set_other {t : Tbl} {p q : Nat} {l : Label} (h : q ≠ p) : (t.set p l) q = t q := by simp [Tbl.set, h]

@[simp] theorem visit_tbl (st : St) (p c : Nat) : (st.visit p c).tbl = st.tbl := rfl
@[simp] theorem assign_tbl (st : St) (p : Nat) (l : Label) : (st.assign p l).tbl = st.tbl.set p l := rfl

def Final (l : Label) : Prop := l ≠ .seen

theorem computed_iff (t : Tbl) (p : Nat) : computed t p = true ↔ ∃ l, t p = some l ∧ Final l := by
  unfold computed Final
  cases h : t p with
  | none => simp
  | some l => cases l <;> simp

theorem not_computed_cases {t : Tbl} {p : Nat} (h : computed t p = false) : t p = none ∨ t p = some .seen := by
  unfold computed at h
  cases ht : t p with
  | none => left; rfl
  | some l => cases l <;> simp_all

-- stated with the `if`s of the definition, so that a proof can take the branches one by one
-- (`simp only [computeLabel]` would also unfold the recursive call inside `loop`)
theorem computeLabel_succ (ctx : Ctx) (allowed : List Nat) (fuel : Nat) (st : St) (p : Nat) :
    computeLabel ctx allowed (fuel + 1) st p =
      if computed st.tbl p then st.visit p 0
      else if fuel = 0 then (st.visit p 1).assign p .poison
      else if (ctx.info p).isDecision then (st.visit p 2).assign p .poison
      else if !allowed.contains (ctx.info p).level then (st.visit p 3).assign p .poison
      else loop (computeLabel ctx allowed fuel) p (st.visit p 4) (ctx.info p).reason := rfl

def Dominated (ctx : Ctx) (t : Tbl) (p : Nat) : Prop :=
  (ctx.info p).isDecision = false ∧ ∀ a ∈ (ctx.info p).reason, t a = some .removable ∨ t a = some .keep

/-- The table invariant with respect to the original nogood `ng`: a Removable predicate is
dominated; Seen and Keep predicates belong to the nogood. -/
structure Good (ctx : Ctx) (ng : List Nat) (t : Tbl) : Prop where
  rem : ∀ p, t p = some .removable → Dominated ctx t p
  mem : ∀ p, (t p = some .seen ∨ t p = some .keep) → p ∈ ng

/-- `t'` extends `t`: final labels stay, and only predicates of rank at most `r` are touched -/
structure Ext (rank : Nat → Nat) (r : Nat) (t t' : Tbl) : Prop where
  keep : ∀ p l, t p = some l → Final l → t' p = some l
  frame : ∀ p, r < rank p → t' p = t p

theorem Ext.refl (rank : Nat → Nat) (r : Nat) (t : Tbl) : Ext rank r t t :=
  ⟨fun _ _ h _ => h, fun _ _ => rfl⟩

def Step (ctx : Ctx) (ng : List Nat) (rank : Nat → Nat) (p : Nat) (t t' : Tbl) : Prop :=
  Good ctx ng t' ∧ Ext rank (rank p) t t' ∧ computed t' p = true

theorem Step.after {ctx : Ctx} {ng : List Nat} {rank : Nat → Nat} {a p : Nat} {t1 t2 t3 : Tbl}
    (h12 : Ext rank (rank a) t1 t2) (ha : rank a < rank p) (h23 : Step ctx ng rank p t2 t3) :
    Step ctx ng rank p t1 t3 :=
  ⟨h23.1, ⟨fun q l h hl => h23.2.1.keep q l (h12.keep q l h hl) hl,
    fun q hq => by rw [h23.2.1.frame q hq, h12.frame q (by omega)]⟩, h23.2.2⟩

/-- The one way the table changes: a predicate without a final label gets one (`hnot` is what
`assign_predicate_label` asserts). No final label is overwritten, so whatever was dominated stays
dominated. -/
theorem Step.set {ctx : Ctx} {ng : List Nat} {rank : Nat → Nat} {t : Tbl} {p : Nat} {l : Label}
    (hg : Good ctx ng t) (hnot : computed t p = false) (hl : Final l)
    (hrem : l = .removable → Dominated ctx t p) (hkeep : l = .keep → p ∈ ng) :
    Step ctx ng rank p t (t.set p l) := by
  have keep : ∀ q l', t q = some l' → Final l' → (t.set p l) q = some l' := by
    intro q l' hq hl'
    have hqp : q ≠ p := by
      intro h; subst h
      rw [(computed_iff t q).2 ⟨l', hq, hl'⟩] at hnot; cases hnot
    rwa [set_other hqp]
  have dom : ∀ q, Dominated ctx t q → Dominated ctx (t.set p l) q := fun q h =>
    -- Removable and Keep are final labels (`nofun : Final _`)
    ⟨h.1, fun a ha => (h.2 a ha).imp (keep a .removable · nofun) (keep a .keep · nofun)⟩
  refine ⟨⟨fun q hq => dom q ?_, fun q hq => ?_⟩,
    ⟨keep, fun q hq => set_other (by intro h; subst h; omega)⟩,
    (computed_iff _ p).2 ⟨l, set_same .., hl⟩⟩
  · by_cases hqp : q = p
    · subst hqp; rw [set_same] at hq; exact hrem (Option.some.inj hq)
    · rw [set_other hqp] at hq; exact hg.rem q hq
  · by_cases hqp : q = p
    · subst hqp; simp only [set_same, Option.some.injEq] at hq
      exact hq.elim (fun h => absurd h hl) hkeep
    · rw [set_other hqp] at hq; exact hg.mem q hq

def Spec (ctx : Ctx) (ng : List Nat) (rank : Nat → Nat) (f : St → Nat → St) : Prop :=
  ∀ st p, Good ctx ng st.tbl → Step ctx ng rank p st.tbl (f st p).tbl

theorem loop_spec (ctx : Ctx) (ng : List Nat) (rank : Nat → Nat) (f : St → Nat → St)
    (hf : Spec ctx ng rank f) (p : Nat) (hdec : (ctx.info p).isDecision = false) (rest : List Nat)
    (st : St) (hg : Good ctx ng st.tbl) (hnot : computed st.tbl p = false)
    (hrank : ∀ a ∈ rest, rank a < rank p)
    (hdone : ∀ a ∈ (ctx.info p).reason, a ∈ rest ∨ st.tbl a = some .removable ∨ st.tbl a = some .keep) :
    Step ctx ng rank p st.tbl (loop f p st rest).tbl := by
  -- `hdone` is the loop invariant: every antecedent of `p` is still to come, or already Removable or Keep
  induction rest generalizing st with
  | nil =>
    exact Step.set hg hnot (l := .removable) (hl := nofun)
      (hrem := fun _ => ⟨hdec, fun a ha => (hdone a ha).resolve_left List.not_mem_nil⟩) (hkeep := nofun)
  | cons a rest ih =>
    have ha : rank a < rank p := hrank a (.head _)
    obtain ⟨hg', hext', hcomp'⟩ := hf st a hg
    have hnot' : computed (f st a).tbl p = false := by unfold computed; rw [hext'.frame p ha]; exact hnot
    refine Step.after hext' ha ?_
    simp only [loop]
    by_cases hpoison : (f st a).tbl a = some .poison
    · rw [if_pos hpoison]
      by_cases hseen : (f st a).tbl p = some .seen
      · rw [if_pos hseen]
        exact Step.set hg' hnot' (l := .keep) (hl := nofun) (hrem := nofun)
          (hkeep := fun _ => hg'.mem p (Or.inl hseen))
      · rw [if_neg hseen]
        exact Step.set hg' hnot' (l := .poison) (hl := nofun) (hrem := nofun) (hkeep := nofun)
    · rw [if_neg hpoison]
      refine ih _ hg' hnot' (fun b hb => hrank b (List.mem_cons_of_mem _ hb))
        fun b hb => ?_
      rcases hdone b hb with h | h
      · rcases List.mem_cons.1 h with h | h
        · subst h
          obtain ⟨l, hl, hfin⟩ := (computed_iff _ b).1 hcomp'
          cases l with
          | seen => exact absurd rfl hfin
          | poison => exact absurd hl hpoison
          | removable => exact Or.inr (Or.inl hl)
          | keep => exact Or.inr (Or.inr hl)
        · exact Or.inl h
      · exact Or.inr (h.imp (hext'.keep b .removable · nofun) (hext'.keep b .keep · nofun))

theorem computeLabel_spec (ctx : Ctx) (ng allowed : List Nat) (rank : Nat → Nat)
    (hrank : ∀ p, ∀ a ∈ (ctx.info p).reason, rank a < rank p) :
    ∀ fuel, fuel ≠ 0 → Spec ctx ng rank (computeLabel ctx allowed fuel)
  | 0, h => absurd rfl h
  | fuel + 1, _ => by
    intro st p hg
    rw [computeLabel_succ]
    by_cases hc : computed st.tbl p = true
    · rw [if_pos hc]; exact ⟨hg, Ext.refl _ _ _, hc⟩
    have hnot : computed st.tbl p = false := Bool.eq_false_iff.2 hc
    -- the three ways of giving up differ in the trace only; Poison is final, and neither Removable nor Keep
    have poison : Step ctx ng rank p st.tbl (st.tbl.set p .poison) :=
      Step.set hg hnot (hl := nofun) (hrem := nofun) (hkeep := nofun)
    rw [if_neg hc]
    by_cases h0 : fuel = 0
    · rw [if_pos h0]; exact poison
    rw [if_neg h0]
    by_cases hdec : (ctx.info p).isDecision = true
    · rw [if_pos hdec]; exact poison
    rw [if_neg hdec]
    by_cases hlev : (!allowed.contains (ctx.info p).level) = true
    · rw [if_pos hlev]; exact poison
    rw [if_neg hlev]
    exact loop_spec ctx ng rank _ (computeLabel_spec ctx ng allowed rank hrank fuel h0) p (Bool.eq_false_iff.2 hdec)
      (ctx.info p).reason (st.visit p 4) hg hnot (hrank p) (fun a ha => Or.inl ha)

theorem initOne_tbl (ctx : Ctx) (acc : St × List Nat) (p : Nat) :
    ∃ l, (l = .seen ∨ l = .keep) ∧ (initOne ctx acc p).1.tbl = acc.1.tbl.set p l := by
  unfold initOne
  split
  · exact ⟨.keep, Or.inr rfl, rfl⟩
  · split
    · exact ⟨.keep, Or.inr rfl, rfl⟩
    · exact ⟨.seen, Or.inl rfl, rfl⟩

theorem foldl_initOne (ctx : Ctx) (ng : List Nat) : ∀ (todo : List Nat) (acc : St × List Nat),
    (∀ p ∈ todo, p ∈ ng) → (∀ q l, acc.1.tbl q = some l → q ∈ ng ∧ (l = .seen ∨ l = .keep)) →
    ∀ q l, (todo.foldl (initOne ctx) acc).1.tbl q = some l → q ∈ ng ∧ (l = .seen ∨ l = .keep)
  | [], _, _, h => h
  | p :: rest, acc, hsub, h => by
    refine foldl_initOne ctx ng rest _ (fun r hr => hsub r (List.mem_cons_of_mem _ hr)) fun q l hq => ?_
    obtain ⟨l', hl', hset⟩ := initOne_tbl ctx acc p
    rw [hset] at hq
    by_cases hqp : q = p
    · subst hqp; rw [set_same] at hq; cases hq; exact ⟨hsub q (List.mem_cons_self ..), hl'⟩
    · rw [set_other hqp] at hq; exact h q l hq

theorem init_good (ctx : Ctx) (ng : List Nat) : Good ctx ng (init ctx ng).1.tbl :=
  -- every label of the initial table is Seen or Keep: nothing is Removable yet
  have key := foldl_initOne ctx ng ng ({}, []) (fun _ h => h) (fun _ _ h => nomatch h)
  ⟨fun p hp => by simpa using (key p _ hp).2, fun p hp => hp.elim (key p _ · |>.1) (key p _ · |>.1)⟩

theorem sweep_cons (ctx : Ctx) (allowed : List Nat) (st : St) (p : Nat) (rest : List Nat) :
    sweep ctx allowed st (p :: rest) =
      ((sweep ctx allowed (computeLabel ctx allowed ctx.limit st p) rest).1,
       if (computeLabel ctx allowed ctx.limit st p).tbl p = some .poison ∨
          (computeLabel ctx allowed ctx.limit st p).tbl p = some .keep
       then p :: (sweep ctx allowed (computeLabel ctx allowed ctx.limit st p) rest).2
       else (sweep ctx allowed (computeLabel ctx allowed ctx.limit st p) rest).2) := by
  simp only [sweep]; split <;> rfl

theorem sweep_spec (ctx : Ctx) (ng allowed : List Nat) (rank : Nat → Nat)
    (hrank : ∀ p, ∀ a ∈ (ctx.info p).reason, rank a < rank p) (hlimit : 0 < ctx.limit)
    (todo : List Nat) (st : St) (hg : Good ctx ng st.tbl) :
    Good ctx ng (sweep ctx allowed st todo).1.tbl ∧
    (∀ p l, st.tbl p = some l → Final l → (sweep ctx allowed st todo).1.tbl p = some l) ∧
    (∀ p ∈ todo, ∃ l, (sweep ctx allowed st todo).1.tbl p = some l ∧ Final l ∧
      ((l = .poison ∨ l = .keep) → p ∈ (sweep ctx allowed st todo).2)) := by
  -- the second conjunct is there for the induction: it carries the label of the head through the rest of the sweep
  induction todo generalizing st with
  | nil => exact ⟨hg, fun _ _ h _ => h, fun p hp => by cases hp⟩
  | cons p rest ih =>
    obtain ⟨hg', hext', hcomp'⟩ := computeLabel_spec ctx ng allowed rank hrank ctx.limit (Nat.ne_of_gt hlimit) st p hg
    obtain ⟨g, keepf, all⟩ := ih _ hg'
    obtain ⟨l, hl, hfin⟩ := (computed_iff _ p).1 hcomp'
    rw [sweep_cons]
    refine ⟨g, fun q l' h hl' => keepf q l' (hext'.keep q l' h hl') hl', fun q hq => ?_⟩
    rcases List.mem_cons.1 hq with hq | hq
    · subst hq
      refine ⟨l, keepf q l hl hfin, hfin, fun h => ?_⟩
      rw [if_pos (by rw [hl]; exact h.imp (congrArg _) (congrArg _))]
      exact List.mem_cons_self ..
    · obtain ⟨l', h1, h2, h3⟩ := all q hq
      refine ⟨l', h1, h2, fun h => ?_⟩
      split
      · exact List.mem_cons_of_mem _ (h3 h)
      · exact h3 h

/-- **Soundness of the recursive minimiser.** `hreason`: every reason is an implication (the root-level
antecedents, which `reason` leaves out, hold anyway); `hrank`: the reason graph is acyclic. -/
theorem removeDominated_sound (ctx : Ctx) (ng : List Nat) (rank : Nat → Nat) (v : Nat → Prop)
    (hlimit : 0 < ctx.limit)
    (hrank : ∀ p, ∀ a ∈ (ctx.info p).reason, rank a < rank p)
    (hreason : ∀ p, (ctx.info p).isDecision = false → (∀ a ∈ (ctx.info p).reason, v a) → v p)
    (hkept : ∀ q ∈ (removeDominated ctx ng).2, v q) : ∀ p ∈ ng, v p := by
  obtain ⟨hg, _, hall⟩ := sweep_spec ctx ng (init ctx ng).2 rank hrank hlimit ng (init ctx ng).1 (init_good ctx ng)
  unfold removeDominated at hkept
  generalize sweep ctx (init ctx ng).2 (init ctx ng).1 ng = r at hg hall hkept
  have hkeep : ∀ q, r.1.tbl q = some .keep → v q := fun q hq => by
    obtain ⟨l, h1, _, h3⟩ := hall q (hg.mem q (Or.inr hq))
    exact hkept q (h3 (Or.inr (Option.some.inj (h1.symm.trans hq))))
  have hrem : ∀ n, ∀ q, rank q < n → r.1.tbl q = some .removable → v q := by
    intro n
    induction n with
    | zero => intro q hq; omega
    | succ n ih =>
      intro q hq hlab
      obtain ⟨hdec, hants⟩ := hg.rem q hlab
      refine hreason q hdec fun a ha => (hants a ha).elim
        (ih a (Nat.lt_of_lt_of_le (hrank q a ha) (Nat.le_of_lt_succ hq))) (hkeep a)
  intro p hp
  obtain ⟨l, h1, h2, h3⟩ := hall p hp
  cases l with
  | seen => exact absurd rfl h2
  | poison => exact hkept p (h3 (Or.inl rfl))
  | keep => exact hkept p (h3 (Or.inr rfl))
  | removable => exact hrem (rank p + 1) p (by omega) h1

theorem sweep_sub (ctx : Ctx) (allowed : List Nat) : ∀ (todo : List Nat) (st : St),
    ∀ q ∈ (sweep ctx allowed st todo).2, q ∈ todo
  | [], st, q, hq => by simp [sweep] at hq
  | p :: rest, st, q, hq => by
    rw [sweep_cons] at hq
    refine List.mem_cons.2 ?_
    split at hq
    · exact (List.mem_cons.1 hq).imp_right (sweep_sub ctx allowed rest _ q)
    · exact Or.inr (sweep_sub ctx allowed rest _ q hq)

theorem removeDominated_sub (ctx : Ctx) (ng : List Nat) : ∀ q ∈ (removeDominated ctx ng).2, q ∈ ng :=
  sweep_sub ctx _ ng _

end Pumpkin.RecMin
