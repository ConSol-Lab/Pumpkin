/-
Soundness of time-table filtering (`ttPass`; `ttFix`, its fixpoint over several constraints), for tasks of
non-negative usage (`tasksWf`) and all capacities, views, zero durations and domain states: an assignment within
the domains under which the load never exceeds the capacity (the documented meaning of `cumulative`:
`CumSem.cumulative_sat_iff`) is still within the domains after `ttPass` / `ttFix`, and neither reports a conflict.
-/
import Pumpkin.Model.Cumulative
import Pumpkin.Model.PropagationSound
import Pumpkin.Spec.CumSem

namespace Pumpkin.Pg

open Pumpkin.AtomRup
open Pumpkin.CumSem (runs contrib contrib_nonneg loadAt_eq)

theorem mandatory_runs {d : Doms} {a : List Int} (h : inDoms d a = true) (k : Task)
    (hw : k.start.var < a.length) (t : Int) (hm : mandatoryAt d k t = true) : runs k a t := by
  simp only [mandatoryAt, Bool.and_eq_true, decide_eq_true_eq] at hm
  exact ⟨Int.le_trans (le_ub h hw) hm.1, Int.lt_of_lt_of_le hm.2 (Int.add_le_add_right (lb_le h hw) _)⟩

theorem profile_term_le {d : Doms} {a : List Int} (h : inDoms d a = true) (k : Task)
    (hw : k.start.var < a.length ∧ 0 ≤ k.use) (t : Int) :
    (if mandatoryAt d k t then k.use else 0) ≤ contrib k a t := by
  cases hm : mandatoryAt d k t with
  | true => rw [contrib, if_pos (mandatory_runs h k hw.1 t hm), if_pos rfl]; exact Int.le_refl _
  | false => exact contrib_nonneg hw.2 a t

theorem heightAt_le_loadAt {d : Doms} {a : List Int} (h : inDoms d a = true)
    (ts : List Task) (hw : tasksWf a.length ts) (t : Int) : heightAt d ts t ≤ loadAt ts a t :=
  sumL_map_le _ _ _ fun j hj => profile_term_le h j (hw j hj) t

theorem heightAt_add_le_loadAt {d : Doms} {a : List Int} (h : inDoms d a = true)
    (ts : List Task) (hw : tasksWf a.length ts) (t : Int) (k : Task) (hk : k ∈ ts)
    (hnm : mandatoryAt d k t = false) (hr : runs k a t) : heightAt d ts t + k.use ≤ loadAt ts a t :=
  sumL_map_add_le ts _ (contrib · a t) hk k.use (fun j hj => profile_term_le h j (hw j hj) t)
    (by simp only [hnm, contrib, if_pos hr, Bool.false_eq_true, if_false, Int.zero_add, Int.le_refl])

/-- the three writes of `find_possible_updates`, for a task of start `s` and duration `p` which does not run at `t` -/
theorem away_rules {s p t : Int} (h : ¬(s ≤ t ∧ t < s + p)) :
    (∀ l, l ≤ s → l + p > t ∧ l ≤ t → t + 1 ≤ s) ∧ (∀ u, s ≤ u → u + p > t ∧ u ≤ t → s ≤ t - p) ∧
      (!(decide (t - p < s) && decide (s ≤ t))) = true :=
  -- if `s ≤ t` then `t < l + p ≤ s + p`, so it runs: hence `t < s`, i.e. `t + 1 ≤ s`;
  -- if `t < s + p` then `s ≤ u ≤ t`, so it runs: hence `s + p ≤ t`
  ⟨fun l h1 g => Int.not_le.1 fun c => h ⟨c, Int.lt_of_lt_of_le g.1 (Int.add_le_add_right h1 p)⟩,
    fun u h1 g => Int.le_sub_right_of_add_le (Int.not_lt.1 fun c => h ⟨Int.le_trans h1 g.2, c⟩),
    by simp only [Bool.not_eq_true', Bool.and_eq_false_iff, decide_eq_false_iff_not]; omega⟩

theorem ttTaskAt_ok {a : List Int} (holes : Bool) (cap : Int) (ts : List Task) (hw : tasksWf a.length ts)
    (hT : ∀ t, loadAt ts a t ≤ cap) (t : Int) (k : Task) (hk : k ∈ ts) (d : Doms)
    (h : inDoms d a = true) : Ok a.length a (ttTaskAt holes cap ts t k d) := by
  have hkw := (hw k hk).1
  unfold ttTaskAt
  refine Ok.ite (fun hc => ?_) fun _ => Ok.some h
  -- the task would overflow the profile at `t`, so it does not run there
  obtain ⟨r1, r2, r3⟩ := away_rules fun hr =>
    Int.not_le.2 hc.1 (Int.le_trans (heightAt_add_le_loadAt h ts hw t k hk hc.2.1 hr) (hT t))
  refine Ok.bind (Ok.ite (fun g => setLb_ok h hkw (r1 _ (lb_le h hkw) g)) fun _ => Ok.some h) fun d1 h1 => ?_
  refine Ok.bind (Ok.ite (fun g => setUb_ok h1 hkw (r2 _ (le_ub h1 hkw) g)) fun _ => Ok.some h1) fun d2 h2 => ?_
  exact Ok.ite (fun _ => keep_ok h2 hkw r3) fun _ => Ok.some h2

-- holds for any list of time points: that `ttPass` visits `ttTimes` matters for `tt_decides` only
theorem ttPoints_ok {a : List Int} (holes : Bool) (cap : Int) (ts : List Task) (hw : tasksWf a.length ts)
    (hT : ∀ t, loadAt ts a t ≤ cap) (times : List Int) (d : Doms)
    (h : inDoms d a = true) : Ok a.length a (ttPoints holes cap ts times d) := by
  induction times generalizing d with
  | nil => exact Ok.some h
  | cons t r ih =>
    refine Ok.ite (fun c => absurd c (Int.not_lt.2 (Int.le_trans (heightAt_le_loadAt h ts hw t) (hT t)))) fun _ =>
      Ok.ite (fun _ => Ok.bind ?_ ih) fun _ => ih d h
    exact Ok.loop (fun _ => rfl) (fun _ _ _ => rfl) ts (fun k hk => ttTaskAt_ok holes cap ts hw hT t k hk) d h

/-- a task which on its own exceeds the capacity runs at its own start -/
theorem oversize_unsat {n : Nat} {a : List Int} (ts : List Task) (cap : Int) (hw : tasksWf n ts)
    (hany : (ttTasks ts).any (fun k => decide (k.use > cap)) = true) : ¬ ∀ t, loadAt ts a t ≤ cap := by
  intro hT
  obtain ⟨k, hk, hku⟩ := List.any_eq_true.1 hany
  obtain ⟨hk, hpos⟩ := List.mem_filter.1 hk
  simp only [Bool.and_eq_true, decide_eq_true_eq] at hku hpos
  have hr : runs k a (k.start.eval a) := ⟨Int.le_refl _, Int.lt_add_of_pos_right _ hpos.1⟩
  have hload := sumL_map_add_le ts (fun _ => 0) (contrib · a (k.start.eval a)) hk k.use
    (fun j hj => contrib_nonneg (hw j hj).2 a _) (by simp only [contrib, if_pos hr, Int.zero_add, Int.le_refl])
  rw [sumL_map_zero, Int.zero_add, ← loadAt_eq] at hload
  exact Int.not_le.2 hku (Int.le_trans hload (hT _))

theorem loadAt_ttTasks {n : Nat} {ts : List Task} (hw : tasksWf n ts) (a : List Int) (t : Int) :
    loadAt (ttTasks ts) a t = loadAt ts a t := by
  -- `ttTasks` writes the two tests in the other order; `tasksWf` excludes the second disjunct of `loadAt_drop_zero`
  rw [ttTasks, List.filter_congr fun k _ => Bool.and_comm ..]
  exact (CumSem.loadAt_drop_zero ts a t).resolve_right fun ⟨k, hk, hneg⟩ => Int.not_lt.2 (hw k hk).2 hneg

theorem ttPass_ok {n : Nat} {a : List Int} (holes : Bool) (ts : List Task) (cap : Int) (hw : tasksWf n ts)
    (hT : ∀ t, loadAt ts a t ≤ cap) (d : Doms) (h : inDoms d a = true) (hl : d.length = n) :
    Ok n a (ttPass holes ts cap d) := by
  obtain rfl := length_eq h hl
  unfold ttPass
  exact Ok.ite (fun hany => absurd hT (oversize_unsat ts cap hw hany)) fun _ =>
    ttPoints_ok holes cap (ttTasks ts) (fun k hk => hw k (List.mem_filter.1 hk).1)
      (fun t => loadAt_ttTasks hw a t ▸ hT t) _ d h

/-- a list of cumulative constraints: (allow_holes, tasks, capacity) -/
def ttWf (n : Nat) (cs : List (Bool × List Task × Int)) : Prop := ∀ c ∈ cs, tasksWf n c.2.1

def ttSat (cs : List (Bool × List Task × Int)) (a : List Int) : Prop :=
  ∀ c ∈ cs, ∀ t, loadAt c.2.1 a t ≤ c.2.2

theorem ttRound_ok {a : List Int} (cs : List (Bool × List Task × Int)) (hw : ttWf a.length cs)
    (hs : ttSat cs a) (d : Doms) (h : inDoms d a = true) : Ok a.length a (ttRound cs d) :=
  Ok.loop (fun _ => rfl) (fun _ _ _ => rfl) cs
    (fun c hc d h => ttPass_ok c.1 c.2.1 c.2.2 (hw c hc) (hs c hc) d h (inDoms_length h).symm) d h

theorem ttIterate_ok {a : List Int} (cs : List (Bool × List Task × Int)) (hw : ttWf a.length cs)
    (hs : ttSat cs a) (fuel : Nat) (d : Doms) (h : inDoms d a = true) : Ok a.length a (ttIterate cs fuel d) := by
  induction fuel generalizing d with
  | zero => exact Ok.some h
  | succ k ih =>
    obtain ⟨d', e, h', _⟩ := ttRound_ok cs hw hs d h
    simp only [ttIterate, e]
    exact Ok.ite (fun _ => Ok.some h') fun _ => ih d' h'

theorem ttFix_ok {n : Nat} {a : List Int} (cs : List (Bool × List Task × Int)) (hw : ttWf n cs)
    (hs : ttSat cs a) (d : Doms) (h : inDoms d a = true) (hl : d.length = n) : Ok n a (ttFix cs d) := by
  obtain rfl := length_eq h hl
  unfold ttFix
  rw [show d.any List.isEmpty = false from not_hasEmpty_of_inDoms h]
  exact ttIterate_ok cs hw hs _ d h

end Pumpkin.Pg
