/-
The domain store refines the abstract domains of the propagator models: `post_predicate` on the store is
`AtomRup.assume` on the `Doms` read off it. `toDoms` lists the values of each variable's declared interval
which the store `contains`; that the store contains no others is not proved.
-/
import Pumpkin.Model.AssignmentsHist
import Pumpkin.Check.AtomRup

namespace Pumpkin.Asg

open IDom St

def rangeI (lo hi : Int) : List Int := (List.range (hi + 1 - lo).toNat).map (fun (i : Nat) => lo + Int.ofNat i)

def vals (s : St) (x : Nat) : List Int :=
  (rangeI (s.dom x).initLb (s.dom x).initUb).filter (s.contains x)

def toDoms (s : St) : List (List Int) := (List.range s.doms.length).map (vals s)

theorem applyAtom_init (d : IDom) (a : Atom) (l pos : Nat) (h1 : d.lbs ≠ []) (h2 : d.ubs ≠ []) :
    (applyAtom d a l pos).initLb = d.initLb ∧ (applyAtom d a l pos).initUb = d.initUb := by
  unfold IDom.initLb IDom.initUb
  constructor
  · rcases (applyAtom_pushed d a l pos).1 with h | ⟨b, h⟩
    · rw [h]
    · rw [h, List.getLast?_cons_of_ne_nil h1]
  · rcases (applyAtom_pushed d a l pos).2 with h | ⟨b, h⟩
    · rw [h]
    · rw [h, List.getLast?_cons_of_ne_nil h2]

/-- `Inv` is in the motive for `build_stamped`: a push onto a non-empty bound list leaves its last element
alone -/
theorem post_init (s : St) (h : Inv s) (p : Atom) (hp : p.var < s.doms.length) :
    (s.post p).1.doms.length = s.doms.length ∧ ∀ x, x < s.doms.length →
      ((s.post p).1.dom x).initLb = (s.dom x).initLb ∧ ((s.post p).1.dom x).initUb = (s.dom x).initUb := by
  refine (post_induct (P := fun t => Inv t ∧ t.doms.length = s.doms.length ∧ ∀ x, x < s.doms.length →
    (t.dom x).initLb = (s.dom x).initLb ∧ (t.dom x).initUb = (s.dom x).initUb) s p hp
    ⟨h, rfl, fun _ _ => ⟨rfl, rfl⟩⟩ ?_).2
  rintro t q ⟨ht, hl, hi⟩ hq
  refine ⟨inv_postSimple t ht q hq, by rw [postSimple_length, hl], fun x hx => ?_⟩
  rw [← (hi x hx).1, ← (hi x hx).2, postSimple_dom t q hq]
  split
  · have hs := build_stamped t.trail ht.wf x (by rw [← ht.doms, hl]; exact hx)
    rw [← ht.doms] at hs
    exact applyAtom_init _ _ _ _ hs.1.1 hs.2.1
  · exact ⟨rfl, rfl⟩

theorem post_refines (s : St) (h : Inv s) (p : Atom) (hp : p.var < s.doms.length) :
    toDoms (s.post p).1 = AtomRup.assume (toDoms s) p := by
  obtain ⟨hpl, hpi⟩ := post_init s h p hp
  unfold AtomRup.assume toDoms
  rw [AtomRup.restrict_eq_modify, hpl]
  apply List.ext_getElem?
  intro y
  rw [List.getElem?_modify]
  by_cases hy : y < s.doms.length
  · simp only [List.getElem?_map, List.getElem?_range hy, Option.map_some]
    congr 1
    unfold vals
    rw [(hpi y hy).1, (hpi y hy).2]
    split
    · rename_i hyp
      simp only [List.filter_filter]
      apply List.filter_congr
      intro v _
      rw [Bool.eq_iff_iff, post_contains s p hp y v, Bool.and_eq_true]
      -- goal, with `hyp : p.var = y`: `contains s y v ∧ (y = p.var → p.holdsVal v) ↔ p.holdsVal v ∧ contains s y v`
      exact ⟨fun ⟨a, b⟩ => ⟨b hyp.symm, a⟩, fun ⟨a, b⟩ => ⟨b, fun _ => a⟩⟩
    · rename_i hyp
      apply List.filter_congr
      intro v _
      rw [Bool.eq_iff_iff, post_contains s p hp y v]
      exact ⟨And.left, fun a => ⟨a, fun hh => absurd hh.symm hyp⟩⟩
  · simp [hy]

end Pumpkin.Asg
