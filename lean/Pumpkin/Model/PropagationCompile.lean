/-
The decomposition of constraints into propagators (`Pg.compile`, mirroring `pumpkin_solver::constraints`)
preserves the meaning: the constraints of the propagators hold together exactly when the constraint does. So
posting a whole model at the root (`Pg.rootFix`) never loses a solution of the `Spec` model, reports
infeasibility only for models without solutions, and stays within the declared domains.
`Props/C09.lean` is imported for how the library builds negation, equality and `implied_by` of a clause:
`negCons` and `compileWith` build the same terms, by `rfl`.
-/
import Pumpkin.Model.PropagationArith
import Pumpkin.Props.C09

namespace Pumpkin.Pg

open Pumpkin.AtomRup (val_mem_of_inDoms)

theorem map_neg_neg (ls : List Atom) : (ls.map Atom.neg).map Atom.neg = ls := by
  rw [List.map_map, show Atom.neg ∘ Atom.neg = id from funext Atom.neg_neg, List.map_id]

theorem negCons_sat {c c' : Cons} (h : negCons c = some c') (a : List Int) : c'.sat a = !c.sat a := by
  cases c <;> cases h
  case linLe => exact C09.negLinLe_sat _ _ a
  case linEq => exact C09.neg_eq_ne _ _ a
  case linNe => simp [Cons.sat]
  case clause => exact C09.neg_clause_conj _ a
  case conj ls =>
    have := C09.neg_clause_conj (ls.map Atom.neg) a
    rw [map_neg_neg] at this
    rw [this, Bool.not_not]
  case neg => exact (Bool.not_not _).symm

/-- `resolveNeg` only strips negations -/
theorem resolveNeg_induct {R : Cons → Cons → Prop} (hrefl : ∀ c, R c c)
    (hneg : ∀ {c0 c1 c2}, R c0 c1 → negCons c1 = some c2 → R (.neg c0) c2)
    {fuel : Nat} {c c' : Cons} (h : resolveNeg fuel c = some c') : R c c' := by
  fun_induction resolveNeg fuel c generalizing c' with
  | case1 => cases h
  | case2 k c0 ih =>
    obtain ⟨c1, h1, h2⟩ := Option.bind_eq_some_iff.1 h
    exact hneg (ih h1) h2
  | case3 => cases h; exact hrefl _

theorem resolveNeg_sat (fuel : Nat) (c c' : Cons) (h : resolveNeg fuel c = some c') (a : List Int) :
    c'.sat a = c.sat a :=
  resolveNeg_induct (R := fun c c' => c'.sat a = c.sat a) (fun _ => rfl)
    (fun h1 h2 => by rw [negCons_sat h2 a, h1]; rfl) h

def impHolds (imp : Option Atom) (a : List Int) : Prop :=
  match imp with
  | none => True
  | some r => r.holds a = true

theorem wrap_sat_iff (imp : Option Atom) (p : PropInst) (a : List Int) :
    (compileWith.wrap imp p).cons.sat a = true ↔ (impHolds imp a → p.cons.sat a = true) := by
  cases imp with
  | none => exact true_imp_iff.symm
  | some r => exact Cons.implied_sat_iff r p.cons a

theorem sdOf_sem {vs : List Int} {z : Int} (h : z ∈ vs) : (sdOf vs).Sem z :=
  ⟨rfl, minL_le h, le_maxL h, fun hm => by
    rw [sdOf, List.mem_filter, List.contains_iff_mem.2 h] at hm; exact nomatch hm.2⟩  -- `hm.2 : (!true) = true`

theorem sdOfVar_sem {orig : Doms} {a : List Int} (h : inDoms orig a = true) (x : Nat) :
    (sdOfVar orig x).Sem (val a x) := by
  unfold sdOfVar
  split
  · exact sdOf_sem (val_mem_of_inDoms h ‹_›)
  · -- out of range: `val` reads its default 0, and that is what the default `{lb := 0, ub := 0}` of `sdOfVar` is there for
    rw [val, List.getD_eq_getElem?_getD, List.getElem?_eq_none (inDoms_length h ▸ Nat.le_of_not_lt ‹_›)]
    exact ⟨rfl, Int.le_refl _, Int.le_refl _, nofun⟩

theorem clause_sat_iff (ls : List Atom) (a : List Int) :
    (Cons.clause ls).sat a = true ↔ ¬ ∀ p ∈ ls.map Atom.neg, p.holds a = true := by
  rw [← List.all_eq_true, show (ls.map Atom.neg).all (·.holds a) = _ from C09.neg_clause_conj ls a]
  cases (Cons.clause ls).sat a <;> simp

/-- the two sides are the negations of those of `SemMin.minimise_sem` -/
theorem clauseInst_sat_iff {orig : Doms} {a : List Int} (hin : inDoms orig a = true) (ls : List Atom) :
    (∀ p ∈ clauseInst orig ls, p.cons.sat a = true) ↔ (Cons.clause ls).sat a = true := by
  rw [clause_sat_iff, SemMin.minimise_sem (sdOfVar orig) (ls.map Atom.neg) true a (sdOfVar_sem hin)]
  unfold clauseInst minClause
  cases SemMin.minimise (sdOfVar orig) (ls.map Atom.neg) true with
  | none => exact ⟨fun _ h => h, fun _ _ h => nomatch h⟩  -- `(∀ p ∈ [], …) ↔ ¬False`
  | some out =>
    rw [Option.map_some]
    exact List.forall_mem_singleton.trans ((clause_sat_iff _ a).trans (by rw [map_neg_neg]))

theorem clauseInst_fwd {orig : Doms} {a : List Int} (hin : inDoms orig a = true) (ls : List Atom)
    (hs : ∃ l ∈ ls, l.holds a = true) : ∀ p ∈ clauseInst orig ls, p.cons.sat a = true :=
  (clauseInst_sat_iff hin ls).2 (List.any_eq_true.2 hs)

theorem mem_of_mem_pairs {p : View × View} {xs : List View} (h : p ∈ pairs xs) : p.1 ∈ xs ∧ p.2 ∈ xs := by
  induction xs with
  | nil => cases h
  | cons z zs ih =>
    simp only [pairs, List.mem_append, List.mem_map] at h
    rcases h with ⟨w, hw, rfl⟩ | h
    · simp [hw]
    · simp [ih h]

theorem pairwiseNe_iff_pairs (xs : List View) (a : List Int) :
    pairwiseNe (xs.map (·.eval a)) = true ↔ ∀ p ∈ pairs xs, p.1.eval a ≠ p.2.eval a := by
  induction xs with
  | nil => simp [pairs, pairwiseNe]
  | cons x xs ih =>
    simp only [List.map_cons, pairwiseNe, pairs, Bool.and_eq_true, List.all_eq_true, decide_eq_true_eq, ih,
      List.forall_mem_append, List.forall_mem_map]

/-- the binary not-equals that `all_different` posts for a pair -/
theorem linNe_pair_sat (x y : View) (a : List Int) :
    (Cons.linNe [x.scaled 1, y.scaled (-1)] 0).sat a = true ↔ x.eval a ≠ y.eval a := by
  show decide (0 + (x.scaled 1).eval a + (y.scaled (-1)).eval a ≠ 0) = true ↔ _
  rw [decide_eq_true_eq, View.scaled_eval, View.scaled_eval, Int.zero_add, Int.one_mul, Int.neg_one_mul, ← Int.sub_eq_add_neg]
  exact not_congr Int.sub_eq_zero

/-- `minimum` is posted as `maximum` over the negated views -/
theorem max_neg_sat (xs : List View) (r : View) (a : List Int) :
    (Cons.max (negViews xs) (neg r)).sat a = (Cons.min xs r).sat a := by
  simp only [Cons.sat, negViews, neg, List.all_map, List.any_map, Function.comp_def, neg_eval, Int.neg_le_neg_iff,
    Int.neg_inj]

theorem compileWith_sat_iff (orig : Doms) (imp : Option Atom) (c : Cons) (ps : List PropInst)
    (hc : compileWith orig imp c = some ps) (a : List Int) (hin : inDoms orig a = true) :
    (∀ p ∈ ps, p.cons.sat a = true) ↔ (impHolds imp a → c.sat a = true) := by
  cases c <;> cases hc
  case linEq ts k =>
    rw [List.forall_mem_cons, List.forall_mem_singleton, wrap_sat_iff, wrap_sat_iff, ← imp_and, ← C09.equals_decomposition]
    simp only [C09.equalsAsInequalities, List.all_cons, List.all_nil, Bool.and_true, Bool.and_eq_true]; rfl
  case min xs r =>
    rw [List.forall_mem_singleton, wrap_sat_iff, ← max_neg_sat]; rfl
  case allDiff xs =>
    simp only [List.forall_mem_map, wrap_sat_iff, PropInst.cons, linNe_pair_sat]
    rw [show (Cons.allDiff xs).sat a = pairwiseNe (xs.map (·.eval a)) from rfl, pairwiseNe_iff_pairs]
    exact ⟨fun h i p hp => h p hp i, fun h p hp i => h i p hp⟩
  case clause ls =>
    rw [clauseInst_sat_iff hin]
    cases imp with
    | none => exact true_imp_iff.symm
    | some r => rw [C09.clause_implied_by]; exact Cons.implied_sat_iff r _ a
  case conj ls =>
    rcases imp with _ | r <;>
      simp only [List.forall_mem_flatMap, clauseInst_sat_iff hin, Cons.sat, List.all_eq_true, List.any_cons, List.any_nil,
        Bool.or_false, Atom.neg_holds, impHolds]
    · exact true_imp_iff.symm
    · -- literal by literal, the clause `[¬r, l]` says `r → l`; the goal:
      -- `(∀ l ∈ ls, (!r.holds a || l.holds a) = true) ↔ (r.holds a = true → ∀ l ∈ ls, l.holds a = true)`
      cases r.holds a
      · exact ⟨fun _ h => (nomatch h), fun _ _ _ => rfl⟩
      · exact ⟨fun h _ => h, fun h => h rfl⟩
  all_goals exact List.forall_mem_singleton.trans (wrap_sat_iff imp _ a)

theorem compile_sat_iff (orig : Doms) (c : Cons) (ps : List PropInst) (hc : compile orig c = some ps)
    (a : List Int) (hin : inDoms orig a = true) : (∀ p ∈ ps, p.cons.sat a = true) ↔ c.sat a = true := by
  unfold compile at hc
  split at hc
  · rename_i r c'
    obtain ⟨c1, h1, h2⟩ := Option.bind_eq_some_iff.1 hc
    rw [compileWith_sat_iff orig _ c1 ps h2 a hin, resolveNeg_sat _ _ _ h1 a]
    exact (Cons.implied_sat_iff r c' a).symm
  · rename_i r c'
    simp only [Option.bind_eq_some_iff, Option.map_eq_some_iff] at hc
    obtain ⟨pos, h1, ng, h2, ps1, h3, ps2, h4, rfl⟩ := hc
    have hp := resolveNeg_sat _ _ _ h1 a
    rw [List.forall_mem_append, compileWith_sat_iff orig _ pos ps1 h3 a hin, compileWith_sat_iff orig _ ng ps2 h4 a hin,
      ← C09.reify_decomposition r c' ng a (hp ▸ negCons_sat h2 a), Bool.and_eq_true, Cons.implied_sat_iff,
      Cons.implied_sat_iff, hp]  -- `hp ▸ negCons_sat h2 a : ng.sat a = !pos.sat a = !c'.sat a`
    rfl
  · obtain ⟨c1, h1, h2⟩ := Option.bind_eq_some_iff.1 hc
    rw [compileWith_sat_iff orig none c1 ps h2 a hin, resolveNeg_sat _ _ _ h1 a]
    exact true_imp_iff

theorem compile_fwd (orig : Doms) (c : Cons) (ps : List PropInst) (hc : compile orig c = some ps)
    (a : List Int) (hin : inDoms orig a = true) (hs : c.sat a = true) : ∀ p ∈ ps, p.cons.sat a = true :=
  (compile_sat_iff orig c ps hc a hin).2 hs

theorem compile_bwd (orig : Doms) (c : Cons) (ps : List PropInst) (hc : compile orig c = some ps)
    (a : List Int) (hin : inDoms orig a = true) (H : ∀ p ∈ ps, p.cons.sat a = true) : c.sat a = true :=
  (compile_sat_iff orig c ps hc a hin).1 H

def consWf (n : Nat) : Cons → Prop
  | .linLe ts _ => ∀ t ∈ ts, t.var < n
  | .linEq ts _ => ∀ t ∈ ts, t.var < n
  | .linNe ts _ => ∀ t ∈ ts, t.var < n
  | .times a b c => a.var < n ∧ b.var < n ∧ c.var < n
  | .div a b c => a.var < n ∧ b.var < n ∧ c.var < n
  | .abs s r => s.var < n ∧ r.var < n
  | .max xs r => (∀ t ∈ xs, t.var < n) ∧ r.var < n
  | .min xs r => (∀ t ∈ xs, t.var < n) ∧ r.var < n
  | .element i xs r => i.var < n ∧ (∀ t ∈ xs, t.var < n) ∧ r.var < n
  | .allDiff xs => ∀ t ∈ xs, t.var < n
  | .cumulative ts _ => tasksWf n ts
  | .clause ls => ∀ p ∈ ls, p.var < n
  | .conj ls => ∀ p ∈ ls, p.var < n
  | .implied r c => r.var < n ∧ consWf n c
  | .reif r c => r.var < n ∧ consWf n c
  | .neg c => consWf n c

theorem map_neg_wf {n : Nat} {ls : List Atom} (h : ∀ p ∈ ls, p.var < n) : ∀ p ∈ ls.map Atom.neg, p.var < n :=
  List.forall_mem_map.2 fun p hp => (Atom.neg_var p).symm ▸ h p hp

theorem negCons_wf {n : Nat} {c c' : Cons} (h : negCons c = some c') (hw : consWf n c) : consWf n c' := by
  cases c <;> cases h
  case linLe => exact List.forall_mem_map.2 hw
  case clause | conj => exact map_neg_wf hw
  all_goals exact hw

theorem resolveNeg_wf {n : Nat} (fuel : Nat) (c c' : Cons) (h : resolveNeg fuel c = some c') (hw : consWf n c) :
    consWf n c' :=
  resolveNeg_induct (R := fun c c' => consWf n c → consWf n c') (fun _ h => h) (fun h1 h2 hw => negCons_wf h2 (h1 hw)) h hw

theorem clauseInst_wf {n : Nat} (orig : Doms) (ls : List Atom) (hw : ∀ p ∈ ls, p.var < n) :
    ∀ p ∈ clauseInst orig ls, p.Wf n := by
  unfold clauseInst minClause
  cases hm : SemMin.minimise (sdOfVar orig) (ls.map Atom.neg) true with
  | none => exact fun _ h => nomatch h
  | some out =>
    -- the minimiser mentions only variables of its input (`minimise` is `minimiseVars` at `(ng.map Atom.var).eraseDups`)
    refine List.forall_mem_singleton.2 (map_neg_wf fun q hq => ?_)
    obtain ⟨l, hl, e⟩ := List.mem_map.1 (List.mem_eraseDups.1 (SemMin.minimiseVars_vars _ _ _ _ _ hm q hq))
    exact e ▸ map_neg_wf hw l hl

theorem wrap_wf {n : Nat} (imp : Option Atom) (himp : ∀ r, imp = some r → r.var < n) (p : PropInst) (hp : p.Wf n) :
    (compileWith.wrap imp p).Wf n := by
  cases imp with
  | none => exact hp
  | some r => exact ⟨himp r rfl, hp⟩

theorem compileWith_wf {n : Nat} (orig : Doms) (imp : Option Atom) (himp : ∀ r, imp = some r → r.var < n)
    (c : Cons) (ps : List PropInst) (hc : compileWith orig imp c = some ps) (hw : consWf n c) :
    ∀ p ∈ ps, p.Wf n := by
  have hneg : ∀ ts : List View, (∀ t ∈ ts, t.var < n) → ∀ t ∈ negViews ts, t.var < n :=
    fun ts h => List.forall_mem_map.2 h
  cases c <;> cases hc
  case linEq ts k =>
    exact List.forall_mem_cons.2 ⟨wrap_wf imp himp _ hw, List.forall_mem_singleton.2 (wrap_wf imp himp _ (hneg ts hw))⟩
  case min xs r => exact List.forall_mem_singleton.2 (wrap_wf imp himp _ ⟨hneg xs hw.1, hw.2⟩)
  case allDiff xs =>
    refine List.forall_mem_map.2 fun p hp => wrap_wf imp himp _ ?_
    obtain ⟨hx, hy⟩ := mem_of_mem_pairs hp
    exact List.forall_mem_cons.2 ⟨hw p.1 hx, List.forall_mem_singleton.2 (hw p.2 hy)⟩
  case clause ls =>
    apply clauseInst_wf
    cases imp with
    | none => exact hw
    | some r => exact List.forall_mem_append.2 ⟨hw, List.forall_mem_singleton.2 ((Atom.neg_var r).symm ▸ himp r rfl)⟩
  case conj ls =>
    refine List.forall_mem_flatMap.2 fun l hl => clauseInst_wf orig _ ?_
    cases imp with
    | none => exact List.forall_mem_singleton.2 (hw l hl)
    | some r => exact List.forall_mem_cons.2 ⟨(Atom.neg_var r).symm ▸ himp r rfl, List.forall_mem_singleton.2 (hw l hl)⟩
  all_goals exact List.forall_mem_singleton.2 (wrap_wf imp himp _ hw)

theorem compile_wf {n : Nat} (orig : Doms) (c : Cons) (ps : List PropInst) (hc : compile orig c = some ps)
    (hw : consWf n c) : ∀ p ∈ ps, p.Wf n := by
  unfold compile at hc
  split at hc
  · rename_i r c'
    obtain ⟨c1, h1, h2⟩ := Option.bind_eq_some_iff.1 hc
    exact compileWith_wf orig (some r) (fun _ e => Option.some.inj e ▸ hw.1) c1 ps h2 (resolveNeg_wf _ _ _ h1 hw.2)
  · rename_i r c'
    simp only [Option.bind_eq_some_iff, Option.map_eq_some_iff] at hc
    obtain ⟨pos, h1, ng, h2, ps1, h3, ps2, h4, rfl⟩ := hc
    have w1 := resolveNeg_wf _ _ _ h1 hw.2
    exact List.forall_mem_append.2
      ⟨compileWith_wf orig (some r) (fun _ e => Option.some.inj e ▸ hw.1) pos ps1 h3 w1,
        compileWith_wf orig (some r.neg) (fun _ e => Option.some.inj e ▸ (Atom.neg_var r).symm ▸ hw.1) ng ps2 h4
          (negCons_wf h2 w1)⟩
  · obtain ⟨c1, h1, h2⟩ := Option.bind_eq_some_iff.1 hc
    exact compileWith_wf orig none (fun _ e => nomatch e) c1 ps h2 (resolveNeg_wf _ _ _ h1 hw)

theorem compileAll_wf {n : Nat} (orig : Doms) (cs : List Cons) (ps : List PropInst) (hc : compileAll orig cs = some ps)
    (hw : ∀ c ∈ cs, consWf n c) : ∀ p ∈ ps, p.Wf n := by
  induction cs generalizing ps with
  | nil => cases hc; exact fun _ h => nomatch h
  | cons c cs ih =>
    simp only [compileAll, Option.bind_eq_some_iff, Option.map_eq_some_iff] at hc
    obtain ⟨qs, hq, rs, hr, rfl⟩ := hc
    rw [List.forall_mem_cons] at hw
    exact List.forall_mem_append.2 ⟨compile_wf orig c qs hq hw.1, ih rs hr hw.2⟩

theorem compileAll_sat_iff (orig : Doms) (cs : List Cons) (ps : List PropInst) (hc : compileAll orig cs = some ps)
    (a : List Int) (hin : inDoms orig a = true) : (∀ p ∈ ps, p.cons.sat a = true) ↔ ∀ c ∈ cs, c.sat a = true := by
  induction cs generalizing ps with
  | nil => cases hc; simp
  | cons c cs ih =>
    simp only [compileAll, Option.bind_eq_some_iff, Option.map_eq_some_iff] at hc
    obtain ⟨qs, hq, rs, hr, rfl⟩ := hc
    rw [List.forall_mem_append, List.forall_mem_cons, compile_sat_iff orig c qs hq a hin, ih rs hr]

theorem initPost_ok {n : Nat} {a : List Int} (p : PropInst) (hw : p.Wf n) (hsat : p.cons.sat a = true)
    (d : Doms) (h : inDoms d a = true) (hl : d.length = n) : Ok n a (initPost d p) := by
  obtain rfl := length_eq h hl
  cases p with
  | reified r q =>
    simp only [initPost]
    refine Ok.ite (fun hc => ?_) fun _ => Ok.some h
    have hq : q.cons.sat a = false := by
      cases q with
      | linLe ts c => exact inconsistent_sound (.linLe ts c) hw.2 d h hc
      | linNe ts c =>
        -- every term is fixed, so the sum is the sum of the fixed terms
        simp only [PropInst.initConflict, Bool.and_eq_true, List.all_eq_true, decide_eq_true_eq] at hc
        have : sumViews ts a = c := by rw [← hc.2, fixedSum_eq h ts hw.2, List.filter_eq_self.2 hc.1]; rfl
        exact decide_eq_false fun hne => hne this
      | cumulative ho ts cap =>
        simp only [PropInst.initConflict] at hc
        cases hs : (PropInst.cumulative ho ts cap).cons.sat a
        · rfl
        · exfalso
          exact oversize_unsat ts cap hw.2 hc
            ((CumSem.cumulative_sat_iff ts cap a (fun k hk => (hw.2 k hk).2)).1 hs)
      | _ => simp [PropInst.initConflict] at hc
    simp only [PropInst.cons, Cons.sat, hq, Bool.or_false, Bool.not_eq_true'] at hsat
    refine postAtom_ok h ((Atom.neg_var r).symm ▸ hw.1) ?_
    rw [Atom.neg_holds, hsat]; rfl
  | _ => exact Ok.some h

theorem initPosts_ok {a : List Int} (ps : List PropInst) (hw : ∀ p ∈ ps, p.Wf a.length)
    (hsat : ∀ p ∈ ps, p.cons.sat a = true) (d : Doms) (h : inDoms d a = true) : Ok a.length a (initPosts ps d) :=
  Ok.loop (step := fun p d => initPost d p) (fun _ => rfl) (fun _ _ _ => rfl) ps
    (fun p hp d h => initPost_ok p (hw p hp) (hsat p hp) d h (inDoms_length h).symm) d h

/-- `ps`: the propagators posted so far -/
theorem postAll_ok {n : Nat} {a : List Int} (orig : Doms) (horig : inDoms orig a = true) (cs : List Cons)
    (hw : ∀ c ∈ cs, consWf n c) (hsat : ∀ c ∈ cs, c.sat a = true) (ps : List PropInst)
    (hpw : ∀ p ∈ ps, p.Wf n) (hps : ∀ p ∈ ps, p.cons.sat a = true) (d : Doms) (h : inDoms d a = true)
    (hl : d.length = n) (r : Option (List PropInst × Doms)) (hr : postAll orig cs ps d = some r) :
    ∃ ps' d', r = some (ps', d') ∧ inDoms d' a = true := by
  induction cs generalizing ps d with
  | nil => cases hr; exact ⟨ps, d, rfl, h⟩
  | cons c cs ih =>
    obtain rfl := length_eq h hl
    rw [List.forall_mem_cons] at hw hsat
    simp only [postAll] at hr
    split at hr
    · cases hr
    · rename_i qs hq
      have qw := compile_wf orig c qs hq hw.1
      have qs' := compile_fwd orig c qs hq a horig hsat.1
      have allw : ∀ p ∈ ps ++ qs, p.Wf a.length := List.forall_mem_append.2 ⟨hpw, qw⟩
      have alls : ∀ p ∈ ps ++ qs, p.cons.sat a = true := List.forall_mem_append.2 ⟨hps, qs'⟩
      obtain ⟨d', e, h', _⟩ : Ok a.length a ((initPosts qs d).bind (fixpoint (ps ++ qs))) :=
        Ok.bind (initPosts_ok qs qw qs' d h) fun d' h' => fixpoint_ok (ps ++ qs) allw alls d' h' (inDoms_length h').symm
      rw [e] at hr
      exact ih hw.2 hsat.2 (ps ++ qs) allw alls d' h' (inDoms_length h').symm hr

theorem rootFix_sound (m : Model) (hw : ∀ c ∈ m.cons, consWf m.doms.length c) (r : Option Doms)
    (hr : rootFix m.doms m.cons = some r) (a : List Int) (ha : m.sat a = true) :
    ∃ d', r = some d' ∧ inDoms d' a = true := by
  rw [Model.sat_iff] at ha
  unfold rootFix at hr
  rw [show m.doms.any List.isEmpty = false from AtomRup.not_hasEmpty_of_inDoms ha.1] at hr
  simp only [Bool.false_eq_true, if_false, Option.map_eq_some_iff] at hr
  obtain ⟨r', hr', rfl⟩ := hr
  obtain ⟨ps', d', rfl, h'⟩ := postAll_ok (n := m.doms.length) m.doms ha.1 m.cons hw ha.2 [] nofun nofun
    m.doms ha.1 rfl r' hr'
  exact ⟨d', rfl, h'⟩

theorem rootFix_conflict_unsat (m : Model) (hw : ∀ c ∈ m.cons, consWf m.doms.length c)
    (hr : rootFix m.doms m.cons = some none) : solutions m = [] :=
  (solutions_eq_nil_iff m).2 fun a => Bool.eq_false_iff.2 fun hs =>
    let ⟨_, e, _⟩ := rootFix_sound m hw none hr a hs
    nomatch e

theorem rootFix_encloses (m : Model) (hw : ∀ c ∈ m.cons, consWf m.doms.length c) (d' : Doms)
    (hr : rootFix m.doms m.cons = some (some d')) : ∀ a ∈ solutions m, inDoms d' a = true := by
  intro a ha
  obtain ⟨d'', e, h⟩ := rootFix_sound m hw _ hr a ((mem_solutions m a).1 ha)
  cases e; exact h

theorem postAll_below (orig : Doms) (d0 : Doms) (cs : List Cons) (ps : List PropInst) (d : Doms) (hb : Below d0 d)
    (ps' : List PropInst) (d' : Doms) (h : postAll orig cs ps d = some (some (ps', d'))) : Below d0 d' := by
  fun_induction postAll orig cs ps d with
  | case1 => cases h; exact hb
  | case2 => cases h
  | case3 => cases h
  | case4 c cs ps d qs _ d1 hq ih => exact ih (hb.step (Nar.bind (initPosts_nar qs d) fun d2 => fixpoint_nar _ d2) hq) h

theorem rootFix_below (orig : Doms) (cs : List Cons) (d0 : Doms) (h : rootFix orig cs = some (some d0)) : Below orig d0 := by
  unfold rootFix at h
  split at h
  · cases h
  · simp only [Option.map_eq_some_iff] at h
    obtain ⟨_, hr, ⟨ps', d'⟩, rfl, rfl⟩ := h
    exact postAll_below orig orig cs [] orig (Below.refl orig) ps' d' hr

end Pumpkin.Pg
