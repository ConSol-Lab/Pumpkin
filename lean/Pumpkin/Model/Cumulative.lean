/-
Time-table filtering for `cumulative` as a function on domains
(`propagators/cumulative/time_table/*`, `time_table_util.rs`):

* tasks with a zero duration or usage are dropped (`utils/util.rs::create_tasks`); a task whose usage
  alone exceeds the capacity makes posting fail (`constraints/cumulative.rs`);
* the *mandatory part* of a task is `[ub(s), lb(s) + p)`; the profile height at a time point is the
  sum of the usages of the tasks whose mandatory part covers it; a height above the capacity is a
  conflict (`create_time_table_per_point_from_scratch`);
* a task which is not part of the profile at `t`, would overflow it (`height + usage > capacity`) and
  could still run at `t` (`lb ≤ t < ub + p`) is pushed away from `t`
  (`find_possible_updates`): lower bound to `t + 1` if `lb + p > t`, upper bound to `t - p` if
  `ub ≤ t`, and with `allow_holes_in_domain` the start times `t - p + 1 ..= t` are removed.

All six propagator variants (per point / over interval, incremental or not, with or without
synchronisation) and `generate_sequence` compute the *fixpoint* of these rules (they differ in the
order in which, and the profile granularity at which, they get there, and in the explanations); the
rules are monotone, so the fixpoint does not depend on the order, nor on whether the profile is
evaluated once per call (as the Rust does) or read off the current domains (as `ttPass` does). This
is therefore a model of *what is propagated at the fixpoint*, not of the single calls; the `fix`
correspondence compares fixpoints.
-/
import Pumpkin.Model.Propagation

namespace Pumpkin.Pg

/-! (the definitions `ttTasks … ttPass` live in `Model/Propagation.lean`, in front of `PropInst`) -/

/-- one round over several cumulative constraints; `ttFix` runs rounds to their common fixpoint -/
def ttRound : List (Bool × List Task × Int) → Doms → Option Doms
  | [], d => some d
  | (h, ts, c) :: r, d => (ttPass h ts c d).bind (ttRound r)

def ttIterate (cs : List (Bool × List Task × Int)) : Nat → Doms → Option Doms
  | 0, d => some d
  | fuel + 1, d =>
    match ttRound cs d with
    | none => none
    | some d' => if size d' = size d then some d' else ttIterate cs fuel d'

def ttFix (cs : List (Bool × List Task × Int)) (d : Doms) : Option Doms :=
  if d.any List.isEmpty then none else ttIterate cs (size d + 1) d

end Pumpkin.Pg
