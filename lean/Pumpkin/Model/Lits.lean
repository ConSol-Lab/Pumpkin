/-
Model of the literal definition file (`.lits`) of DRCP proofs
(`drcp-format/src/literal_definitions.rs`: `LiteralDefinitions::write` / `parse` and the nom grammar;
`drcp-format/src/atomic.rs`: the `Display` impls), at byte level.

The driver compares the reader (`parseFile`) with the code on every file; the writer (`renderDef`,
`renderFile`) is read off `write` and the `Display` impls and is not run against them.
-/
import Pumpkin.Model.DimacsLayout

namespace Pumpkin.Lits
open Pumpkin.Dimacs (digits natOfDigits isDigit digits_all natOfDigits_digits digits_ne_nil digits_head digits_no_lf
  isDigit_not_ws not_contains_of_all)

inductive Cmp | ge | le | eq | ne
deriving DecidableEq, Repr

inductive Atomic
  | int (name : List Nat) (cmp : Cmp) (value : Int)
  | bool (name : List Nat) (value : Bool)
deriving DecidableEq, Repr

def Cmp.render : Cmp → List Nat
  | .ge => [62, 61]   -- ">="
  | .le => [60, 61]   -- "<="
  | .eq => [61, 61]   -- "=="
  | .ne => [33, 61]   -- "!="

def renderInt (z : Int) : List Nat := if z < 0 then 45 :: digits z.natAbs else digits z.natAbs

def trueB : List Nat := [116, 114, 117, 101]
def falseB : List Nat := [102, 97, 108, 115, 101]

/-- `[name cmp value]` / `[name == true]` -/
def Atomic.render : Atomic → List Nat
  | .int n c v => [91] ++ n ++ [32] ++ c.render ++ [32] ++ renderInt v ++ [93]
  | .bool n v => [91] ++ n ++ [32, 61, 61, 32] ++ (if v then trueB else falseB) ++ [93]

def renderAtomics : List Atomic → List Nat
  | [] => []
  | [a] => a.render
  | a :: rest => a.render ++ [32] ++ renderAtomics rest

/-- one line of `LiteralDefinitions::write` (without the line break) -/
def renderDef (code : Nat) (as : List Atomic) : List Nat := digits code ++ [32] ++ renderAtomics as

def isAlpha (b : Nat) : Bool := (65 ≤ b && b ≤ 90) || (97 ≤ b && b ≤ 122)
def isIdChar (b : Nat) : Bool := isAlpha b || isDigit b || b == 95

def span (p : Nat → Bool) : List Nat → List Nat × List Nat
  | [] => ([], [])
  | b :: bs => if p b then let (a, r) := span p bs; (b :: a, r) else ([], b :: bs)

/-- `nom::character::complete::u32` followed by `NonZero::new` -/
def pCode (s : List Nat) : Option (Nat × List Nat) :=
  let (ds, rest) := span isDigit s
  if ds.isEmpty then none
  else if natOfDigits ds = 0 || natOfDigits ds > 4294967295 then none
  else some (natOfDigits ds, rest)

/-- `nom::character::complete::i64`: optional sign, digits, range check -/
def pI64 (s : List Nat) : Option (Int × List Nat) :=
  match s with
  | 45 :: r =>
    let (ds, rest) := span isDigit r
    if ds.isEmpty then none
    else if natOfDigits ds > 9223372036854775808 then none else some (-(natOfDigits ds : Int), rest)
  | 43 :: r =>
    let (ds, rest) := span isDigit r
    if ds.isEmpty then none
    else if natOfDigits ds > 9223372036854775807 then none else some ((natOfDigits ds : Int), rest)
  | r =>
    let (ds, rest) := span isDigit r
    if ds.isEmpty then none
    else if natOfDigits ds > 9223372036854775807 then none else some ((natOfDigits ds : Int), rest)

/-- `identifier`: a letter or `_`, then the longest run of letters, digits and `_` -/
def pIdent (s : List Nat) : Option (List Nat × List Nat) :=
  match s with
  | b :: bs => if isAlpha b || b == 95 then let (a, r) := span isIdChar bs; some (b :: a, r) else none
  | [] => none

def pTag : List Nat → List Nat → Option (List Nat)
  | [], s => some s
  | _ :: _, [] => none
  | t :: ts, b :: bs => if t == b then pTag ts bs else none

def pCmp (s : List Nat) : Option (Cmp × List Nat) :=
  match pTag [61, 61] s with
  | some r => some (.eq, r)
  | none =>
  match pTag [33, 61] s with
  | some r => some (.ne, r)
  | none =>
  match pTag [60, 61] s with
  | some r => some (.le, r)
  | none =>
  match pTag [62, 61] s with
  | some r => some (.ge, r)
  | none => none

def pIntAtomic (s : List Nat) : Option (Atomic × List Nat) := do
  let r ← pTag [91] s
  let (n, r) ← pIdent r
  let r ← pTag [32] r
  let (c, r) ← pCmp r
  let r ← pTag [32] r
  let (v, r) ← pI64 r
  let r ← pTag [93] r
  pure (.int n c v, r)

def pBoolAtomic (s : List Nat) : Option (Atomic × List Nat) := do
  let r ← pTag [91] s
  let (n, r) ← pIdent r
  let r ← pTag [32, 61, 61, 32] r
  match pTag trueB r with
  | some r => let r ← pTag [93] r; pure (.bool n true, r)
  | none =>
    let r ← pTag falseB r
    let r ← pTag [93] r
    pure (.bool n false, r)

/-- `alt((int_atomic, bool_atomic))` -/
def pAtomic (s : List Nat) : Option (Atomic × List Nat) :=
  match pIntAtomic s with
  | some x => some x
  | none => pBoolAtomic s

/-- the tail of `separated_list1(tag(" "), atomic)`: stops (without consuming) where no further
`" " atomic` follows. Every round consumes at least the blank, so the fuel `parseDef` gives, the bytes left,
never runs out. -/
def pMore : Nat → List Nat → List Atomic × List Nat
  | 0, s => ([], s)
  | fuel + 1, s =>
    match pTag [32] s with
    | none => ([], s)
    | some r =>
      match pAtomic r with
      | none => ([], s)
      | some (a, r') => let (as, rest) := pMore fuel r'; (a :: as, rest)

/-- `atomic_definition`; what follows the list on the line is ignored, as in the code -/
def parseDef (s : List Nat) : Option (Nat × List Atomic) := do
  let (c, r) ← pCode s
  let r ← pTag [32] r
  let (a, r) ← pAtomic r
  let (as, _) := pMore r.length r
  pure (c, a :: as)

def NoHead (p : Nat → Bool) (rest : List Nat) : Prop := ∀ b r, rest = b :: r → p b = false

theorem span_append (p : Nat → Bool) (xs rest : List Nat) (hx : xs.all p = true) (hr : NoHead p rest) :
    span p (xs ++ rest) = (xs, rest) := by
  induction xs with
  | nil =>
    cases rest with
    | nil => rfl
    | cons b r => simp [span, hr b r rfl]
  | cons x xs ih =>
    simp only [List.all_cons, Bool.and_eq_true] at hx
    simp [span, hx.1, ih hx.2]

theorem pTag_append (t s : List Nat) : pTag t (t ++ s) = some s := by
  induction t with
  | nil => cases s <;> rfl
  | cons x xs ih => simp [pTag, ih]

theorem pTag1 (b : Nat) (s : List Nat) : pTag [b] (b :: s) = some s := pTag_append [b] s

theorem noHead_cons {p : Nat → Bool} (b : Nat) {r : List Nat} (h : p b = false) : NoHead p (b :: r) := by
  intro b' r' he
  cases he
  exact h

theorem noHead_nil (p : Nat → Bool) : NoHead p [] := by
  intro b r h; cases h

theorem span_digits (n : Nat) (rest : List Nat) (hr : NoHead isDigit rest) :
    span isDigit (digits n ++ rest) = (digits n, rest) :=
  span_append isDigit _ _ (digits_all n) hr

theorem pCode_digits (c : Nat) (rest : List Nat) (h1 : 1 ≤ c) (h2 : c ≤ 4294967295) (hr : NoHead isDigit rest) :
    pCode (digits c ++ rest) = some (c, rest) := by
  simp [pCode, span_digits c rest hr, digits_ne_nil, natOfDigits_digits, Nat.ne_of_gt h1, h2]

theorem pI64_unsigned (n : Nat) (rest : List Nat) (hr : NoHead isDigit rest) :
    pI64 (digits n ++ rest) = if n > 9223372036854775807 then none else some ((n : Int), rest) := by
  obtain ⟨d, ds, hd, hdig⟩ := digits_head n
  have hsp := span_digits n rest hr
  have hval := natOfDigits_digits n
  rw [hd] at hsp hval ⊢
  rw [List.cons_append] at hsp ⊢
  unfold pI64
  split
  · next heq => cases heq; simp [isDigit] at hdig
  · next heq => cases heq; simp [isDigit] at hdig
  · simp only [hsp, hval, List.isEmpty_cons, Bool.false_eq_true, if_false]

theorem pI64_minus (n : Nat) (rest : List Nat) (hr : NoHead isDigit rest) :
    pI64 (45 :: digits n ++ rest) = if n > 9223372036854775808 then none else some (-(n : Int), rest) := by
  simp [pI64, span_digits n rest hr, digits_ne_nil, natOfDigits_digits]

theorem pI64_render (z : Int) (rest : List Nat)
    (hz : -9223372036854775808 ≤ z ∧ z ≤ 9223372036854775807) (hr : NoHead isDigit rest) :
    pI64 (renderInt z ++ rest) = some (z, rest) := by
  unfold renderInt
  split
  · next h =>
    have he : -(z.natAbs : Int) = z := (Int.eq_neg_natAbs_of_nonpos (Int.le_of_lt h)).symm
    rw [pI64_minus _ rest hr, if_neg (by omega), he]
  · next h =>
    have he : (z.natAbs : Int) = z := Int.natAbs_of_nonneg (Int.not_lt.1 h)
    rw [pI64_unsigned _ rest hr, if_neg (by omega), he]

/-- well-formed variable name: `[A-Za-z_][A-Za-z0-9_]*` -/
def WfName (n : List Nat) : Prop :=
  ∃ b bs, n = b :: bs ∧ (isAlpha b || b == 95) = true ∧ bs.all isIdChar = true

theorem pIdent_name (n rest : List Nat) (hn : WfName n) (hr : NoHead isIdChar rest) :
    pIdent (n ++ rest) = some (n, rest) := by
  obtain ⟨b, bs, rfl, hb, hbs⟩ := hn
  simp only [List.cons_append, pIdent, hb, if_true]
  rw [span_append isIdChar bs rest hbs hr]

theorem pCmp_render (c : Cmp) (rest : List Nat) : pCmp (c.render ++ rest) = some (c, rest) := by
  cases c <;> rfl

def WfAtomic : Atomic → Prop
  | .int n _ v => WfName n ∧ -9223372036854775808 ≤ v ∧ v ≤ 9223372036854775807
  | .bool n _ => WfName n

/-! the Boolean rendering followed by `rest`, byte after byte as the parsers consume it -/

theorem render_bool_append (n : List Nat) (v : Bool) (rest : List Nat) :
    (Atomic.bool n v).render ++ rest =
      91 :: (n ++ 32 :: (Cmp.eq.render ++ 32 :: ((if v then trueB else falseB) ++ 93 :: rest))) := by
  simp [Atomic.render, Cmp.render]

theorem pIntAtomic_int (n : List Nat) (c : Cmp) (v : Int) (rest : List Nat)
    (hw : WfAtomic (.int n c v)) : pIntAtomic ((Atomic.int n c v).render ++ rest) = some (.int n c v, rest) := by
  simp [Atomic.render, pIntAtomic, pTag1, pIdent_name n _ hw.1 (noHead_cons 32 rfl),
    pCmp_render, pI64_render v _ hw.2 (noHead_cons 93 rfl)]

/-- the integer form stops at the Boolean word, which is no number -/
theorem pIntAtomic_bool (n : List Nat) (v : Bool) (rest : List Nat) (hw : WfName n) :
    pIntAtomic ((Atomic.bool n v).render ++ rest) = none := by
  have hv : pI64 ((if v then trueB else falseB) ++ 93 :: rest) = none := by cases v <;> rfl
  simp [render_bool_append, pIntAtomic, pTag1, pIdent_name n _ hw (noHead_cons 32 rfl),
    pCmp_render, hv]

theorem pBoolAtomic_bool (n : List Nat) (v : Bool) (rest : List Nat) (hw : WfName n) :
    pBoolAtomic ((Atomic.bool n v).render ++ rest) = some (.bool n v, rest) := by
  have hv : ∀ s, pTag [32, 61, 61, 32] (32 :: (Cmp.eq.render ++ 32 :: s)) = some s := fun s => pTag_append _ s
  simp only [render_bool_append, pBoolAtomic, pTag1, pIdent_name n _ hw (noHead_cons 32 rfl),
    Option.bind_eq_bind, Option.bind_some, hv]
  cases v
  · have : pTag trueB (falseB ++ 93 :: rest) = none := rfl
    simp [this, pTag_append, pTag1]
  · simp [pTag_append, pTag1]

theorem pAtomic_render (a : Atomic) (rest : List Nat) (hw : WfAtomic a) :
    pAtomic (a.render ++ rest) = some (a, rest) := by
  unfold pAtomic
  cases a with
  | int n c v => simp only [pIntAtomic_int n c v rest hw]
  | bool n v => simp only [pIntAtomic_bool n v rest hw, pBoolAtomic_bool n v rest hw]

/-- each atomic preceded by its blank, as `write` emits them and `pMore` consumes them -/
def renderTail (as : List Atomic) : List Nat := as.flatMap (fun a => 32 :: a.render)

theorem renderTail_cons (a : Atomic) (as : List Atomic) :
    renderTail (a :: as) = 32 :: (a.render ++ renderTail as) := rfl

theorem renderAtomics_cons (a : Atomic) (as : List Atomic) :
    renderAtomics (a :: as) = a.render ++ renderTail as := by
  induction as generalizing a with
  | nil => simp [renderAtomics, renderTail]
  | cons b bs ih =>
    simp only [renderAtomics, ih b, renderTail_cons, List.cons_append, List.append_assoc, List.nil_append]

theorem render_length_pos (a : Atomic) : 0 < a.render.length := by
  cases a <;> (rw [Atomic.render, List.length_append]; exact Nat.add_pos_right _ Nat.one_pos)

theorem pMore_tail (as : List Atomic) (hw : ∀ a ∈ as, WfAtomic a) (fuel : Nat)
    (hf : as.length ≤ fuel) : pMore fuel (renderTail as) = (as, []) := by
  induction as generalizing fuel with
  | nil => cases fuel <;> simp [pMore, renderTail, pTag]
  | cons a as ih =>
    cases fuel with
    | zero => simp at hf
    | succ fuel =>
      rw [List.forall_mem_cons] at hw
      rw [renderTail_cons]
      simp only [pMore, pTag1]
      rw [pAtomic_render a _ hw.1]
      simp only
      rw [ih hw.2 fuel (Nat.le_of_succ_le_succ hf)]

theorem renderTail_length (as : List Atomic) : as.length ≤ (renderTail as).length := by
  induction as with
  | nil => simp [renderTail]
  | cons a as ih =>
    simp only [renderTail_cons, List.length_cons, List.length_append]
    omega

theorem parseDef_renderDef (code : Nat) (a : Atomic) (as : List Atomic)
    (hc : 1 ≤ code ∧ code ≤ 4294967295) (hw : ∀ x ∈ a :: as, WfAtomic x) :
    parseDef (renderDef code (a :: as)) = some (code, a :: as) := by
  unfold parseDef renderDef
  have e : digits code ++ [32] ++ renderAtomics (a :: as) =
      digits code ++ (32 :: (a.render ++ renderTail as)) := by
    rw [renderAtomics_cons]; simp [List.append_assoc]
  rw [List.forall_mem_cons] at hw
  rw [e, pCode_digits code _ hc.1 hc.2 (noHead_cons 32 rfl)]
  simp only [Option.bind_eq_bind, Option.bind_some, pTag1]
  rw [pAtomic_render a _ hw.1]
  simp only [Option.bind_some]
  rw [pMore_tail as hw.2 _ (renderTail_length as)]
  rfl

/-- the first line of the doc example of `parse`, with a negative value and a name starting with `_` -/
example : parseDef (renderDef 20 [.int [120, 49] .le 20, .int [120, 49] .ne (-21), .bool [95, 98] true])
    = some (20, [.int [120, 49] .le 20, .int [120, 49] .ne (-21), .bool [95, 98] true]) := by
  apply parseDef_renderDef
  · decide
  · intro x hx
    simp only [List.mem_cons, List.not_mem_nil, or_false] at hx
    rcases hx with rfl | rfl | rfl
    · exact ⟨⟨120, [49], rfl, by decide, by decide⟩, by decide, by decide⟩
    · exact ⟨⟨120, [49], rfl, by decide, by decide⟩, by decide, by decide⟩
    · exact ⟨95, [98], rfl, by decide, by decide⟩

/-- ASCII white space as `str::trim` sees it -/
def isTrimWs (b : Nat) : Bool := b == 32 || (9 ≤ b && b ≤ 13)

def trim (s : List Nat) : List Nat := ((s.dropWhile isTrimWs).reverse.dropWhile isTrimWs).reverse

def splitLines : List Nat → List Nat → List (List Nat)
  | [], cur => [cur]
  | b :: bs, cur => if b == 10 then cur :: splitLines bs [] else splitLines bs (cur ++ [b])

/-- `LiteralDefinitions::parse`: blank lines are skipped, every other line must be a definition;
the result lists the definitions in file order (the map the code builds keeps the last one per code) -/
def parseFile (bytes : List Nat) : Option (List (Nat × List Atomic)) :=
  (((splitLines bytes []).map trim).filter (fun l => !l.isEmpty)).mapM parseDef

/-- `LiteralDefinitions::write` for the entries in the given (code) order -/
def renderFile (defs : List (Nat × List Atomic)) : List Nat :=
  defs.flatMap (fun d => renderDef d.1 d.2 ++ [10])

theorem splitLines_line (l rest cur : List Nat) (hl : l.contains 10 = false) :
    splitLines (l ++ 10 :: rest) cur = (cur ++ l) :: splitLines rest [] := by
  induction l generalizing cur with
  | nil => simp [splitLines]
  | cons b bs ih =>
    simp only [List.contains_cons, Bool.or_eq_false_iff, Bool.beq_comm (a := 10)] at hl
    simp only [List.cons_append, splitLines, hl.1, Bool.false_eq_true, if_false, ih _ hl.2,
      List.append_assoc, List.nil_append]

theorem splitLines_unlines (ls : List (List Nat)) (hlf : ∀ l ∈ ls, l.contains 10 = false) :
    splitLines (ls.flatMap (· ++ [10])) [] = ls ++ [[]] := by
  induction ls with
  | nil => rfl
  | cons l ls ih =>
    rw [List.forall_mem_cons] at hlf
    rw [List.flatMap_cons, List.append_assoc, List.singleton_append, splitLines_line _ _ _ hlf.1, ih hlf.2]
    rfl

theorem trim_id {l : List Nat} (h0 : ∀ x, l.head? = some x → isTrimWs x = false)
    (hlast : ∀ x, l.getLast? = some x → isTrimWs x = false) : trim l = l := by
  have hd : ∀ {l : List Nat}, (∀ x, l.head? = some x → isTrimWs x = false) → l.dropWhile isTrimWs = l := by
    intro l h
    cases l with
    | nil => rfl
    | cons b t => exact List.dropWhile_cons_of_neg (by rw [h b rfl]; exact Bool.false_ne_true)
  rw [trim, hd h0, hd (by rwa [List.head?_reverse]), List.reverse_reverse]

theorem parseFile_lines (ls : List (List Nat))
    (h : ∀ l ∈ ls, l.contains 10 = false ∧ trim l = l ∧ l.isEmpty = false) :
    parseFile (ls.flatMap (· ++ [10])) = ls.mapM parseDef := by
  rw [parseFile, splitLines_unlines ls (fun l hl => (h l hl).1)]
  congr 1
  induction ls with
  | nil => rfl
  | cons l ls ih =>
    rw [List.forall_mem_cons] at h
    simp only [List.cons_append, List.map_cons, h.1.2.1, List.filter_cons, h.1.2.2, Bool.not_false, if_true]
    rw [ih h.2]

/-- an entry is never empty: `add` creates it by pushing -/
def WfDef (d : Nat × List Atomic) : Prop :=
  (1 ≤ d.1 ∧ d.1 ≤ 4294967295) ∧ d.2 ≠ [] ∧ ∀ a ∈ d.2, WfAtomic a

theorem wfName_no_lf (n : List Nat) (h : WfName n) : n.contains 10 = false := by
  obtain ⟨b, bs, rfl, hb, hbs⟩ := h
  have hn : (b :: bs).all isIdChar = true := by
    -- `isIdChar b` is `isAlpha b || isDigit b || b == 95`; commuted, `hb` makes it `true || _`
    rw [List.all_cons, hbs, isIdChar, Bool.or_right_comm, hb]; rfl
  exact not_contains_of_all hn rfl

theorem atomic_no_lf (a : Atomic) (hw : WfAtomic a) : a.render.contains 10 = false := by
  cases a with
  | int n c v =>
    have hc : c.render.contains 10 = false := by cases c <;> rfl
    have hv : (renderInt v).contains 10 = false := by
      unfold renderInt; split
      · rw [List.contains_cons, digits_no_lf]; rfl
      · exact digits_no_lf _
    simp only [Atomic.render, List.contains_append, wfName_no_lf n hw.1, hc, hv]
    rfl
  | bool n v =>
    have hv : (if v then trueB else falseB).contains 10 = false := by cases v <;> rfl
    simp only [Atomic.render, List.contains_append, wfName_no_lf n hw, hv]
    rfl

theorem renderAtomics_no_lf (as : List Atomic) (hw : ∀ a ∈ as, WfAtomic a) :
    (renderAtomics as).contains 10 = false := by
  have ht : ∀ as : List Atomic, (∀ a ∈ as, WfAtomic a) → (renderTail as).contains 10 = false := by
    intro as hw
    induction as with
    | nil => rfl
    | cons b bs ih =>
      rw [List.forall_mem_cons] at hw
      rw [renderTail_cons, List.contains_cons, List.contains_append, atomic_no_lf b hw.1, ih hw.2]
      rfl
  cases as with
  | nil => rfl
  | cons a as =>
    rw [List.forall_mem_cons] at hw
    rw [renderAtomics_cons, List.contains_append, atomic_no_lf a hw.1, ht as hw.2]
    rfl

theorem renderAtomics_last (as : List Atomic) (hne : as ≠ []) : (renderAtomics as).getLast? = some 93 := by
  induction as with
  | nil => exact absurd rfl hne
  | cons a as ih =>
    cases as with
    | nil => cases a <;> exact List.getLast?_concat
    | cons b bs =>
      simp only [renderAtomics]
      rw [List.getLast?_append, ih (List.cons_ne_nil b bs)]
      rfl

theorem renderDef_line (d : Nat × List Atomic) (hw : WfDef d) :
    (renderDef d.1 d.2).contains 10 = false ∧ trim (renderDef d.1 d.2) = renderDef d.1 d.2 ∧
      (renderDef d.1 d.2).isEmpty = false := by
  obtain ⟨b0, t, hd0, hdig⟩ := digits_head d.1
  refine ⟨?_, trim_id ?_ ?_, ?_⟩
  · simp only [renderDef, List.contains_append, digits_no_lf, renderAtomics_no_lf d.2 hw.2.2]
    rfl
  · intro x hx
    rw [renderDef, hd0] at hx
    cases hx
    exact (isDigit_not_ws hdig).2.1  -- `isTrimWs` has the body of `Dimacs.isHdrWs`
  · intro x hx
    rw [renderDef, List.getLast?_append, renderAtomics_last d.2 hw.2.1] at hx
    cases hx
    rfl
  · simp [renderDef, hd0]

theorem parseFile_renderFile (defs : List (Nat × List Atomic)) (hw : ∀ d ∈ defs, WfDef d) :
    parseFile (renderFile defs) = some defs := by
  have hlines : renderFile defs = (defs.map (fun d => renderDef d.1 d.2)).flatMap (· ++ [10]) := by
    simp [renderFile, List.flatMap_map]
  have hl : ∀ l ∈ defs.map (fun d => renderDef d.1 d.2), l.contains 10 = false ∧ trim l = l ∧ l.isEmpty = false := by
    intro l hl
    obtain ⟨d, hd, rfl⟩ := List.mem_map.1 hl
    exact renderDef_line d (hw d hd)
  rw [hlines, parseFile_lines _ hl]
  clear hl hlines
  induction defs with
  | nil => rfl
  | cons d ds ih =>
    obtain ⟨c, as⟩ := d
    obtain ⟨⟨hc, hne, hwa⟩, hds⟩ := List.forall_mem_cons.1 hw
    cases as with
    | nil => exact absurd rfl hne
    | cons a as =>
      simp only [List.map_cons, List.mapM_cons, parseDef_renderDef c a as hc hwa, Option.bind_eq_bind,
        Option.bind_some, ih hds]
      rfl

end Pumpkin.Lits
