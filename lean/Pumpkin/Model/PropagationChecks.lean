/-
At a full assignment every modelled propagator decides its constraint: on the state in which each variable has
exactly one value (`sing a`), a pass that reports no conflict leaves the state as it is and the constraint holds.
This is what makes "no decision left, fixpoint, no conflict" a solution (`C01.fixed_fixpoint_is_solution`).
-/
import Pumpkin.Model.PropagationArith

namespace Pumpkin.Pg

open Pumpkin.AtomRup (restrict_eq_self)

def sing (a : List Int) : Doms := a.map (fun v => [v])

theorem dom_sing {a : List Int} {x : Nat} (hx : x < a.length) : dom (sing a) x = [val a x] := by
  simp only [dom, sing, val, List.getD_eq_getElem?_getD, List.getElem?_map]
  rw [List.getElem?_eq_getElem hx]
  rfl

theorem inDoms_sing (a : List Int) : inDoms (sing a) a = true :=
  AtomRup.inDoms_iff.2 ⟨by simp [sing], fun x hx => by
    rw [show AtomRup.domOf (sing a) x = dom (sing a) x from rfl, dom_sing (by simpa [sing] using hx)]; simp⟩

theorem vals_sing {a : List Int} {w : View} (hw : w.var < a.length) : vals (sing a) w = [w.eval a] := by
  simp only [vals, dom_sing hw, List.map_cons, List.map_nil]
  rfl

theorem lb_sing {a : List Int} {w : View} (hw : w.var < a.length) : lb (sing a) w = w.eval a := by
  simp [lb, vals_sing hw, minL]

theorem ub_sing {a : List Int} {w : View} (hw : w.var < a.length) : ub (sing a) w = w.eval a := by
  simp [ub, vals_sing hw, maxL]

theorem fixed_sing {a : List Int} {w : View} (hw : w.var < a.length) : fixed (sing a) w = true := by
  simp [fixed, lb_sing hw, ub_sing hw]

theorem contains_sing {a : List Int} {w : View} (hw : w.var < a.length) (v : Int) :
    contains (sing a) w v = decide (v = w.eval a) := by
  simp only [contains, vals_sing hw, List.contains_cons, List.contains_nil, Bool.or_false]
  rw [Bool.eq_iff_iff]; simp

theorem keep_sing {a : List Int} {w : View} (hw : w.var < a.length) (f : Int → Bool) :
    keep (sing a) w f = if f (w.eval a) then some (sing a) else none := by
  unfold keep
  dsimp only
  cases hf : f (w.eval a) with
  | true =>
    rw [restrict_eq_self (show ∀ v ∈ dom (sing a) w.var, _ by rw [dom_sing hw]; exact List.forall_mem_singleton.2 hf),
      dom_sing hw]
    rfl
  | false =>
    rw [dom_restrict, if_pos rfl, dom_sing hw, List.filter_cons_of_neg (by rw [vapp_val, hf]; exact Bool.false_ne_true)]
    rfl

theorem postAtom_sing {a : List Int} {p : Atom} (hw : p.var < a.length) :
    postAtom (sing a) p = if p.holds a then some (sing a) else none := by
  rw [postAtom, keep_sing (w := View.ofVar p.var) hw, View.ofVar_eval]; rfl

theorem atomTrue_sing {a : List Int} {p : Atom} (hw : p.var < a.length) : atomTrue (sing a) p = p.holds a := by
  simp [atomTrue, dom_sing hw, Atom.holds]

theorem atomFalse_sing {a : List Int} {p : Atom} (hw : p.var < a.length) : atomFalse (sing a) p = !p.holds a := by
  simp [atomFalse, dom_sing hw, Atom.holds]

/-- by definition `Step a (c.sat a = true) r`; the `*_decides` proofs are built with the `Step` lemmas -/
def Decides (a : List Int) (c : Cons) (r : Option Doms) : Prop :=
  r = none ∨ (r = some (sing a) ∧ c.sat a = true)

def Step (a : List Int) (P : Prop) (r : Option Doms) : Prop := r = none ∨ (r = some (sing a) ∧ P)

theorem Step.bind {a : List Int} {P Q : Prop} {r : Option Doms} {g : Doms → Option Doms}
    (hr : Step a P r) (hg : P → Step a Q (g (sing a))) : Step a Q (r.bind g) := by
  rcases hr with rfl | ⟨rfl, hp⟩
  · left; rfl
  · exact hg hp

theorem Step.seq {a : List Int} {P Q : Prop} {r : Option Doms} {g : Doms → Option Doms}
    (hr : Step a P r) (hg : Step a Q (g (sing a))) : Step a Q (r.bind g) := Step.bind hr fun _ => hg

theorem Step.weaken {a : List Int} {P Q : Prop} {r : Option Doms} (h : Step a P r) (hpq : P → Q) : Step a Q r :=
  Or.imp_right (And.imp_right hpq) h

theorem step_some (a : List Int) : Step a True (some (sing a)) := Or.inr ⟨rfl, trivial⟩

theorem step_keep {a : List Int} {w : View} (hw : w.var < a.length) (f : Int → Bool) :
    Step a (f (w.eval a) = true) (keep (sing a) w f) := by
  rw [keep_sing hw]; split
  · exact Or.inr ⟨rfl, ‹_›⟩
  · exact Or.inl rfl

theorem step_setLb {a : List Int} {w : View} (hw : w.var < a.length) (v : Int) :
    Step a (v ≤ w.eval a) (setLb (sing a) w v) := (step_keep hw _).weaken of_decide_eq_true

theorem step_setUb {a : List Int} {w : View} (hw : w.var < a.length) (v : Int) :
    Step a (w.eval a ≤ v) (setUb (sing a) w v) := (step_keep hw _).weaken of_decide_eq_true

theorem step_remove {a : List Int} {w : View} (hw : w.var < a.length) (v : Int) :
    Step a (w.eval a ≠ v) (remove (sing a) w v) := (step_keep hw _).weaken of_decide_eq_true

theorem step_guard {a : List Int} {P : Prop} {b : Bool} {f : Doms → Option Doms} (hf : b = true → Step a P (f (sing a))) :
    Step a (b = true → P) (guard b f (sing a)) := by
  cases b with
  | false => exact Or.inr ⟨rfl, nofun⟩
  | true => exact (hf rfl).weaken fun hp _ => hp

theorem step_ite {a : List Int} {P Q : Prop} {c : Prop} [Decidable c] {r s : Option Doms}
    (hr : c → Step a P r) (hs : ¬c → Step a Q s) : Step a ((c → P) ∧ (¬c → Q)) (if c then r else s) := by
  by_cases h : c
  · rw [if_pos h]; exact (hr h).weaken fun hp => ⟨fun _ => hp, fun hn => absurd h hn⟩
  · rw [if_neg h]; exact (hs h).weaken fun hq => ⟨fun hc => absurd hc h, fun _ => hq⟩

/-- a conflict test in front of a step -/
theorem step_test {a : List Int} {Q : Prop} {c : Prop} [Decidable c] {s : Option Doms} (hs : ¬c → Step a Q s) :
    Step a (¬c ∧ Q) (if c then none else s) := by
  by_cases h : c
  · rw [if_pos h]; exact Or.inl rfl
  · rw [if_neg h]; exact (hs h).weaken fun q => ⟨h, q⟩

theorem Step.ite {a : List Int} {P : Prop} {c : Prop} [Decidable c] {r s : Option Doms}
    (hr : c → Step a P r) (hs : ¬c → Step a P s) : Step a P (if c then r else s) := by
  by_cases h : c
  · rw [if_pos h]; exact hr h
  · rw [if_neg h]; exact hs h

/-- the list loops that bind one step per element, as `Ok.loop` and `Nar.loop` -/
theorem Step.loop {α : Type} {a : List Int} {f : List α → Doms → Option Doms} {step : α → Doms → Option Doms}
    {P : α → Prop} (hnil : ∀ d, f [] d = some d) (hcons : ∀ x r d, f (x :: r) d = (step x d).bind (f r))
    (l : List α) (hstep : ∀ x ∈ l, Step a (P x) (step x (sing a))) : Step a (∀ x ∈ l, P x) (f l (sing a)) := by
  induction l with
  | nil => exact hnil _ ▸ Or.inr ⟨rfl, nofun⟩
  | cons x r ih =>
    rw [List.forall_mem_cons] at hstep
    exact hcons x r _ ▸ Step.bind hstep.1 fun hx => (ih hstep.2).weaken fun hr => List.forall_mem_cons.2 ⟨hx, hr⟩

/-- at a full assignment, a bound that is tightened whenever it is exceeded holds afterwards -/
theorem le_of_gt_imp_le {x y : Int} (h : x > y → x ≤ y) : x ≤ y :=
  Int.not_lt.1 fun g => Int.not_le.2 g (h g)

theorem sumLb_sing {a : List Int} (ts : List View) (hw : ∀ t ∈ ts, t.var < a.length) :
    sumLb (sing a) ts = sumViews ts a :=
  congrArg sumL (List.map_congr_left fun t ht => lb_sing (hw t ht))

/-- the bound rule of the loop does not matter at a full assignment: the test before it decides -/
theorem linLe_decides {a : List Int} (ts : List View) (c : Int) (hw : ∀ t ∈ ts, t.var < a.length) :
    Decides a (.linLe ts c) (linLePass ts c (sing a)) := by
  unfold linLePass linLeInconsistent
  rw [sumLb_sing ts hw]
  refine (step_test (c := decide (c < sumViews ts a) = true) fun _ =>
    Step.loop (P := fun _ => True) (fun _ => rfl) (fun _ _ _ => rfl) ts fun t ht =>
      Step.ite (fun _ => (step_setUb (hw t ht) _).weaken fun _ => trivial) fun _ => step_some a).weaken fun h => ?_
  exact decide_eq_true (Int.not_lt.1 fun hlt => h.1 (decide_eq_true hlt))

theorem filter_fixed_sing {a : List Int} (ts : List View) (hw : ∀ t ∈ ts, t.var < a.length) :
    ts.filter (fixed (sing a)) = ts := by
  apply List.filter_eq_self.2
  intro t ht
  exact fixed_sing (hw t ht)

theorem fixedSum_sing {a : List Int} (ts : List View) (hw : ∀ t ∈ ts, t.var < a.length) :
    fixedSum (sing a) ts = sumViews ts a := by
  unfold fixedSum
  rw [filter_fixed_sing ts hw]
  exact sumLb_sing ts hw

theorem linNe_decides {a : List Int} (ts : List View) (c : Int) (hw : ∀ t ∈ ts, t.var < a.length) :
    Decides a (.linNe ts c) (linNePass ts c (sing a)) := by
  unfold linNePass
  simp only [filter_fixed_sing ts hw, fixedSum_sing ts hw]
  rw [if_neg Nat.not_succ_lt_self, if_neg (Nat.succ_ne_self _)]
  exact (step_test fun _ => step_some a).weaken fun h => decide_eq_true h.1

/-- the rules of `IntAbs` towards the result leave one value when the argument is known -/
theorem abs_pinned {S R : Int} (h1 : 0 ≤ R) (h2 : R ≤ iabs S) (h3 : 0 < S → S ≤ R) (h4 : S < 0 → iabs S ≤ R) :
    iabs S = R := by
  refine Int.le_antisymm ?_ h2
  rcases iabs_cases S with ⟨h, _⟩ | ⟨h, e⟩
  · exact h4 h
  · rw [e]; omega

theorem abs_decides {a : List Int} (s r : View) (hs : s.var < a.length) (hr : r.var < a.length) :
    Decides a (.abs s r) (absPass s r (sing a)) := by
  unfold absPass
  refine Step.bind (step_setLb hr 0) fun f1 => ?_
  refine Step.bind (step_setUb hr _) fun f2 => ?_
  refine Step.bind (step_ite (fun _ => step_setLb hr _) fun _ => step_ite (fun _ => step_setLb hr _) fun _ => step_some a)
    fun f3 => ?_
  refine Step.seq (step_setLb hs _) (Step.seq (step_setUb hs _) ?_)
  refine (step_ite (fun _ => step_setUb hs _) fun _ => step_ite (fun _ => step_setLb hs _) fun _ => step_some a).weaken
    fun _ => ?_
  -- `0 ≤ r ≤ |s|` by the first two steps, `|s| ≤ r` unless `s = 0` by the third
  rw [lb_sing hs, ub_sing hs] at f3
  rw [lb_sing hs, ub_sing hs, Int.max_self] at f2
  exact decide_eq_true ((natAbs_iabs _).trans (abs_pinned f1 f2 f3.1 fun h => (f3.2 (Int.not_lt.2 (Int.le_of_lt h))).1 h))

theorem clause_decides {a : List Int} (ls : List Atom) (hw : ∀ p ∈ ls, p.var < a.length) :
    Decides a (.clause ls) (clausePass ls (sing a)) := by
  unfold clausePass
  cases hany : ls.any (·.holds a) with
  | true =>
    obtain ⟨p, hp, hpa⟩ := List.any_eq_true.1 hany
    rw [if_pos (List.any_eq_true.2 ⟨p, hp, (atomTrue_sing (hw p hp)).trans hpa⟩)]
    exact Or.inr ⟨rfl, hany⟩
  | false =>
    -- no literal holds, so none is true and none is left after the false ones are dropped
    have hF := List.any_eq_false.1 hany
    rw [if_neg fun h => let ⟨p, hp, ht⟩ := List.any_eq_true.1 h; hF p hp (atomTrue_sing (hw p hp) ▸ ht),
      List.filter_eq_nil_iff.2 fun p hp => by rw [atomFalse_sing (hw p hp), Bool.not_not]; exact hF p hp]
    exact Or.inl rfl

theorem timesSigns_sing {a : List Int} (x y z : View) (hx : x.var < a.length) (hy : y.var < a.length) (hz : z.var < a.length) :
    Step a True (timesSigns x y z (sing a)) := by
  unfold timesSigns
  refine Step.seq (step_guard fun _ => step_setLb hz _) ?_
  refine Step.seq (step_guard fun _ => step_setLb hy _) ?_
  refine Step.seq (step_guard fun _ => step_setLb hx _) ?_
  refine Step.seq (step_guard fun _ => step_setLb hz _) ?_
  refine Step.seq (step_guard fun _ => step_setLb hy _) ?_
  refine Step.seq (step_guard fun _ => step_setLb hx _) ?_
  refine Step.seq (step_guard fun _ => step_setUb hz _) ?_
  refine Step.seq (step_guard fun _ => step_setUb hz _) ?_
  refine Step.seq (step_guard fun _ => step_setUb hy _) ?_
  refine Step.seq (step_guard fun _ => step_setUb hy _) ?_
  refine Step.seq (step_guard fun _ => step_setUb hx _) ?_
  exact (step_guard fun _ => step_setUb hx _).weaken fun _ => trivial

/-- none of the bound rules matters at a full assignment: the final check decides -/
theorem times_decides {a : List Int} (x y z : View) (hx : x.var < a.length) (hy : y.var < a.length) (hz : z.var < a.length) :
    Decides a (.times x y z) (timesPass x y z (sing a)) := by
  unfold timesPass
  refine Step.seq (timesSigns_sing x y z hx hy hz) ?_
  refine Step.seq (step_guard fun _ => Step.seq (step_setUb hz _) (step_setLb hz _)) ?_
  refine Step.seq (step_guard fun _ => step_setLb hx _) ?_
  refine Step.seq (step_guard fun _ => step_setUb hx _) ?_
  refine Step.seq (step_guard fun _ => step_setUb hy _) ?_
  refine Step.seq (step_guard fun _ => step_setLb hy _) ?_
  unfold timesCheck
  simp only [fixed_sing hx, fixed_sing hy, fixed_sing hz, lb_sing hx, lb_sing hy, lb_sing hz, Bool.and_self, Bool.true_and]
  by_cases h : x.eval a * y.eval a = z.eval a
  · right; simp [h, Cons.sat]
  · left; simp [h]

theorem maxLoop1_sing {a : List Int} (R : Int) (rest : List View) (hw : ∀ x ∈ rest, x.var < a.length) (mLb mUb : Int) :
    maxLoop1 R rest mLb mUb (sing a) = none ∨
    (maxLoop1 R rest mLb mUb (sing a) =
        some ((rest.map (·.eval a)).foldl max mLb, (rest.map (·.eval a)).foldl max mUb, sing a) ∧
      ∀ x ∈ rest, x.eval a ≤ R) := by
  induction rest generalizing mLb mUb with
  | nil => exact Or.inr ⟨rfl, fun _ h => nomatch h⟩
  | cons x rest ih =>
    rw [List.forall_mem_cons] at hw
    simp only [maxLoop1]
    rcases step_setUb hw.1 R with h | ⟨h, hle⟩ <;> rw [h]
    · exact Or.inl rfl
    · simp only [Option.bind_some, lb_sing hw.1, ub_sing hw.1, ite_gt_eq_max, List.map_cons, List.foldl_cons]
      exact (ih hw.2 _ _).imp_right (And.imp_right fun g => List.forall_mem_cons.2 ⟨hle, g⟩)

/-- the loop gives `x ≤ r` for all elements, and `r ≤ M'` (third step) for the greatest value `M'` among them -/
theorem max_decides {a : List Int} (xs : List View) (r : View) (hw : ∀ x ∈ xs, x.var < a.length) (hr : r.var < a.length)
    (hne : xs ≠ []) : Decides a (.max xs r) (maxPass xs r (sing a)) := by
  unfold maxPass
  cases xs with
  | nil => exact absurd rfl hne
  | cons x0 xs' =>
    have hx0 := hw x0 (List.mem_cons_self ..)
    dsimp only
    rcases maxLoop1_sing (ub (sing a) r) (x0 :: xs') hw (lb (sing a) x0) (ub (sing a) x0) with h | ⟨e, g1⟩
    · exact Or.inl (by rw [h]; rfl)
    · rw [e, Option.bind_some]
      refine Step.seq (step_setLb hr _) ?_
      refine Step.bind (step_ite (fun _ => step_setUb hr _) fun _ => step_some a) fun f2 => ?_
      have hsat : (Cons.max (x0 :: xs') r).sat a = true := by
        rw [ub_sing hr] at g1 f2
        rw [ub_sing hx0] at f2
        have hle := le_of_gt_imp_le f2.1
        obtain ⟨y, hy, ey⟩ : ∃ y ∈ x0 :: xs', y.eval a = ((x0 :: xs').map (·.eval a)).foldl max (x0.eval a) := by
          rcases List.mem_cons.1 (foldl_max_spec _ _).1 with h | h
          · exact ⟨x0, List.mem_cons_self .., h.symm⟩
          · exact List.mem_map.1 h
        rw [← ey] at hle
        simp only [Cons.sat, Bool.and_eq_true, List.all_eq_true, List.any_eq_true, decide_eq_true_eq]
        exact ⟨g1, y, hy, Int.le_antisymm (g1 y hy) hle⟩
      split
      · rename_i x hsup
        have hx : x.var < a.length := hw x (List.mem_filter.1 (hsup ▸ List.mem_singleton_self x : x ∈ maxSupport _ _ _)).1
        exact (step_ite (fun _ => step_setLb hx _) fun _ => step_some a).weaken fun _ => hsat
      · exact Or.inr ⟨rfl, hsat⟩

theorem elementRemoveLoop_sing {a : List Int} (iv : View) (hiv : iv.var < a.length) (rLb rUb : Int)
    (l : List (Int × View)) (hw : ∀ p ∈ l, p.2.var < a.length) :
    Step a (∀ p ∈ l, p.1 = iv.eval a → ¬ (rLb > p.2.eval a ∨ rUb < p.2.eval a))
      (elementRemoveLoop iv rLb rUb (sing a) l (sing a)) := by
  refine Step.loop (f := elementRemoveLoop iv rLb rUb (sing a)) (fun _ => rfl) (fun _ _ _ => rfl) l fun ⟨k, x⟩ hp => ?_
  refine (step_ite (fun _ => step_remove hiv k) fun _ => step_some a).weaken fun f hk hcond => ?_
  simp only [contains_sing hiv, ub_sing (hw _ hp), lb_sing (hw _ hp), Bool.and_eq_true, Bool.or_eq_true,
    decide_eq_true_eq] at f
  -- `f.1 : k = iv.eval a ∧ (rLb > x ∨ rUb < x) → iv.eval a ≠ k`
  exact f.1 ⟨hk, hcond⟩ hk.symm

/-- the index is in range (first two steps) and its element is not removed by the loop, so it equals `r` -/
theorem element_decides {a : List Int} (iv : View) (xs : List View) (r : View) (hiv : iv.var < a.length)
    (hw : ∀ x ∈ xs, x.var < a.length) (hr : r.var < a.length) :
    Decides a (.element iv xs r) (elementPass iv xs r (sing a)) := by
  refine Step.bind (step_setLb hiv 0) fun f1 => ?_
  refine Step.bind (step_setUb hiv _) fun f2 => ?_
  refine Step.seq (step_setLb hr _) (Step.seq (step_setUb hr _) ?_)
  refine Step.bind (elementRemoveLoop_sing iv hiv _ _ (indexed xs) fun p hp =>
    let ⟨_, hj, _⟩ := mem_indexed.1 hp; hw _ (List.mem_of_getElem? hj)) fun f3 => ?_
  have hx := List.getElem?_eq_getElem ((Int.toNat_lt f1).2 (Int.lt_of_le_sub_one f2))
  have hxm := hw _ (List.mem_of_getElem? hx)
  have hsat : (Cons.element iv xs r).sat a = true := by
    have keep := f3 (iv.eval a, _) (mem_indexed.2 ⟨_, hx, (Int.toNat_of_nonneg f1).symm⟩) rfl
    rw [lb_sing hr, ub_sing hr] at keep
    simp only [Cons.sat, Bool.and_eq_true, decide_eq_true_eq, hx]
    exact ⟨f1, Int.le_antisymm (Int.not_lt.1 fun h => keep (.inr h)) (Int.not_lt.1 fun h => keep (.inl h))⟩
  simp only [fixed_sing hiv, if_true, lb_sing hiv, hx]
  exact Step.seq (step_setLb hxm _) ((step_setUb hxm _).weaken fun _ => hsat)

theorem divSigns_sing {a : List Int} (n dn r : View) (hn : n.var < a.length) (hr : r.var < a.length) :
    Step a ((0 ≤ n.eval a → 0 ≤ r.eval a) ∧ (n.eval a ≤ 0 → r.eval a ≤ 0)) (divSigns n dn r (sing a)) := by
  unfold divSigns
  simp only [lb_sing hn, ub_sing hn, lb_sing hr, ub_sing hr]
  refine Step.bind (step_guard fun _ => step_setLb hr 0) fun f1 => ?_
  refine Step.bind (step_guard fun _ => step_setLb hn 1) fun f2 => ?_
  refine Step.seq (step_guard fun _ => step_setUb hr 0) ?_
  refine (step_guard fun _ => step_setUb hn (-1)).weaken fun _ => ?_
  simp only [Bool.and_eq_true, decide_eq_true_eq] at f1 f2
  -- `f1 : 0 ≤ n ∧ r < 0 → 0 ≤ r`; `f2 : n ≤ 0 ∧ r > 0 → 1 ≤ n`
  exact ⟨fun h => le_of_gt_imp_le fun g => f1 ⟨h, g⟩, fun h => le_of_gt_imp_le fun g =>
    absurd (f2 ⟨h, g⟩) (Int.not_le.2 (Int.lt_of_le_of_lt h Int.zero_lt_one))⟩

theorem divUpper_sing {a : List Int} (n dn r : View) (hn : n.var < a.length) (hd : dn.var < a.length) (hr : r.var < a.length) :
    Step a (r.eval a ≤ (n.eval a).tdiv (dn.eval a) ∧ n.eval a ≤ (r.eval a + 1) * dn.eval a - 1) (divUpper n dn r (sing a)) := by
  unfold divUpper
  simp only [ub_sing hn, ub_sing hr, lb_sing hd, ub_sing hd]
  refine Step.bind (step_guard fun _ => step_setUb hr _) fun f1 => ?_
  refine (step_guard fun _ => step_setUb hn _).weaken fun f2 => ?_
  exact ⟨le_of_gt_imp_le fun g => f1 (decide_eq_true g), le_of_gt_imp_le fun g => f2 (decide_eq_true g)⟩

theorem divPositive_sing {a : List Int} (n dn r : View) (hn : n.var < a.length) (hd : dn.var < a.length) (hr : r.var < a.length) :
    Step a True (divPositive n dn r (sing a)) := by
  unfold divPositive
  refine Step.seq (step_guard fun _ => step_setLb hr _) ?_
  refine Step.seq (step_guard fun _ => step_setLb hn _) ?_
  refine Step.seq (step_guard fun _ => step_setUb hd _) ?_
  exact (step_guard fun _ => step_setLb hd _).weaken fun _ => trivial

/-- the two upper-bound rules pin the quotient of non-negative operands -/
theorem quotient_pinned {N D R : Int} (hD : 1 ≤ D) (hN : 0 ≤ N) (h1 : R ≤ N.tdiv D) (h2 : N ≤ (R + 1) * D - 1) :
    N.tdiv D = R := by
  rw [Int.tdiv_eq_ediv_of_nonneg hN] at h1 ⊢
  exact Int.le_antisymm
    (Int.lt_add_one_iff.1 (Int.ediv_lt_of_lt_mul (Int.lt_of_lt_of_le Int.zero_lt_one hD) (Int.lt_of_le_sub_one h2))) h1

/-- … whatever the sign of `N`, with the sign rules and the same two rules for the negated operands -/
theorem tdiv_pinned {N D R : Int} (hD : 1 ≤ D) (hs : (0 ≤ N → 0 ≤ R) ∧ (N ≤ 0 → R ≤ 0))
    (h1 : 0 ≤ N ∧ 0 ≤ R → R ≤ N.tdiv D ∧ N ≤ (R + 1) * D - 1)
    (h2 : 0 ≤ -N ∧ 0 ≤ -R → -R ≤ (-N).tdiv D ∧ -N ≤ (-R + 1) * D - 1) : N.tdiv D = R := by
  rcases Int.lt_or_le N 0 with hneg | hpos
  · have hN := Int.neg_nonneg_of_nonpos (Int.le_of_lt hneg)
    have := h2 ⟨hN, Int.neg_nonneg_of_nonpos (hs.2 (Int.le_of_lt hneg))⟩
    -- `-(N.tdiv D) = (-N).tdiv D = -R`
    exact Int.neg_inj.1 ((Int.neg_tdiv N D).symm.trans (quotient_pinned hD hN this.1 this.2))
  · have := h1 ⟨hpos, hs.1 hpos⟩
    exact quotient_pinned hD hpos this.1 this.2

theorem divCore_sing {a : List Int} (num nnum den r : View) (wn : num.var < a.length) (wnn : nnum.var < a.length)
    (wd : den.var < a.length) (wr : r.var < a.length) (hD : 1 ≤ den.eval a)
    (en : nnum.eval a = -num.eval a) :
    Step a ((num.eval a).tdiv (den.eval a) = r.eval a) (divCore num nnum den r (sing a)) := by
  unfold divCore
  refine Step.bind (divSigns_sing num den r wn wr) fun fs => ?_
  refine Step.bind (step_guard fun _ => divUpper_sing num den r wn wd wr) fun fu1 => ?_
  refine Step.bind (step_guard fun _ => divUpper_sing nnum den (r.scaled (-1)) wnn wd wr) fun fu2 => ?_
  refine Step.seq (step_guard fun _ => divPositive_sing num den r wn wd wr) ?_
  refine (step_guard fun _ => divPositive_sing nnum den (r.scaled (-1)) wnn wd wr).weaken fun _ => ?_
  simp only [ub_sing wn, ub_sing wr, ub_sing wnn, ub_sing (w := r.scaled (-1)) wr, Bool.and_eq_true, decide_eq_true_eq, en, neg_eval] at fu1 fu2
  exact tdiv_pinned hD fs fu1 fu2

theorem div_decides {a : List Int} (n dn r : View) (hn : n.var < a.length) (hd : dn.var < a.length) (hr : r.var < a.length)
    (hne : dn.eval a ≠ 0) : Decides a (.div n dn r) (divPass n dn r (sing a)) := by
  have sat_of : (n.eval a).tdiv (dn.eval a) = r.eval a → (Cons.div n dn r).sat a = true := by simp [Cons.sat, hne]
  rw [divPass_eq]
  simp only [contains_sing hd, lb_sing hd, ub_sing hd, Bool.and_eq_true, decide_eq_true_eq]
  rw [if_neg (Ne.symm hne), if_neg (by omega)]
  split
  · rename_i hs  -- `dn.eval a < 0`
    exact (divCore_sing (n.scaled (-1)) n (dn.scaled (-1)) r hn hn hd hr
      (by rw [neg_eval]; exact Int.neg_pos_of_neg hs) (by rw [neg_eval, Int.neg_neg])).weaken
      fun q => sat_of (by rwa [neg_eval, neg_eval, Int.neg_tdiv, Int.tdiv_neg, Int.neg_neg] at q)
  · rename_i hs
    exact (divCore_sing n (n.scaled (-1)) dn r hn hn hd hr
      (Int.lt_iff_le_and_ne.2 ⟨Int.not_lt.1 hs, Ne.symm hne⟩) (neg_eval n a)).weaken sat_of

theorem mandatoryAt_sing {a : List Int} (k : Task) (hk : k.start.var < a.length) (t : Int) :
    mandatoryAt (sing a) k t = (decide (k.start.eval a ≤ t) && decide (t < k.start.eval a + k.dur)) := by
  simp only [mandatoryAt, lb_sing hk, ub_sing hk]

theorem heightAt_sing {a : List Int} (ts : List Task) (hw : ∀ k ∈ ts, k.start.var < a.length) (t : Int) :
    heightAt (sing a) ts t = loadAt ts a t :=
  congrArg sumL (List.map_congr_left fun k hk => by
    rw [mandatoryAt_sing k (hw k hk)]; simp only [Bool.and_eq_true, decide_eq_true_eq])

/-- the filtering rules write bounds and holes only: at a full assignment they fail or change nothing -/
theorem ttTaskAt_sing {a : List Int} (holes : Bool) (cap : Int) (ts : List Task) (t : Int) (k : Task)
    (hk : k.start.var < a.length) : Step a True (ttTaskAt holes cap ts t k (sing a)) := by
  unfold ttTaskAt
  refine Step.ite (fun _ => ?_) fun _ => step_some a
  refine Step.seq (step_ite (fun _ => step_setLb hk _) fun _ => step_some a) ?_
  refine Step.seq (step_ite (fun _ => step_setUb hk _) fun _ => step_some a) ?_
  exact Step.ite (fun _ => (step_keep hk _).weaken fun _ => trivial) fun _ => step_some a

theorem ttPoints_sing {a : List Int} (holes : Bool) (cap : Int) (ts : List Task)
    (hw : ∀ k ∈ ts, k.start.var < a.length) (times : List Int) :
    Step a (∀ t ∈ times, loadAt ts a t ≤ cap) (ttPoints holes cap ts times (sing a)) := by
  induction times with
  | nil => exact Or.inr ⟨rfl, fun _ h => nomatch h⟩
  | cons t r ih =>
    simp only [ttPoints, heightAt_sing ts hw]
    -- overload test, then the tasks (when the profile is positive), then the remaining time points
    refine (step_test fun _ => Step.ite (fun _ => Step.seq
      (Step.loop (P := fun _ => True) (fun _ => rfl) (fun _ _ _ => rfl) ts fun k hk => ttTaskAt_sing holes cap ts t k (hw k hk))
      ih) fun _ => ih).weaken fun h => ?_
    exact List.forall_mem_cons.2 ⟨Int.not_lt.1 h.1, h.2⟩

theorem mem_intRange_lo (lo hi : Int) (h : lo ≤ hi) : lo ∈ intRange lo hi := by
  unfold intRange
  exact List.mem_map.2 ⟨0, List.mem_range.2 (by omega), by simp⟩

theorem tt_decides {a : List Int} (holes : Bool) (ts : List Task) (cap : Int) (hw : tasksWf a.length ts)
    (hcap : 0 ≤ cap) : Decides a (.cumulative ts cap) (ttPass holes ts cap (sing a)) := by
  have hw' : ∀ k ∈ ttTasks ts, k.start.var < a.length ∧ 0 ≤ k.use := fun k hk => hw k (List.mem_filter.1 hk).1
  unfold ttPass
  refine (step_test fun _ => ttPoints_sing holes cap (ttTasks ts) (fun k hk => (hw' k hk).1) _).weaken fun h => ?_
  have hall := h.2
  -- the start of every kept task is among the time points visited (`ttTimes`: the first of its mandatory part)
  have hsat' : (Cons.cumulative (ttTasks ts) cap).sat a = true := by
    simp only [Cons.sat, Bool.and_eq_true, List.all_eq_true, decide_eq_true_eq]
    refine ⟨fun k hk => hall _ (List.mem_flatMap.2 ⟨k, hk, ?_⟩), hcap⟩
    rw [ub_sing (hw' k hk).1, lb_sing (hw' k hk).1]
    have hd := (List.mem_filter.1 hk).2
    simp only [Bool.and_eq_true, decide_eq_true_eq] at hd
    exact mem_intRange_lo _ _ (by omega)
  have hT' := (CumSem.cumulative_sat_iff (ttTasks ts) cap a fun k hk => (hw' k hk).2).1 hsat'
  exact (CumSem.cumulative_sat_iff ts cap a fun k hk => (hw k hk).2).2 fun t => loadAt_ttTasks hw a t ▸ hT' t

/-- preconditions the real propagators assert or rely on -/
def PropInst.Pre (a : List Int) : PropInst → Prop
  | .div _ dn _ => dn.eval a ≠ 0
  | .max xs _ => xs ≠ []
  | .cumulative _ _ cap => 0 ≤ cap
  | .reified _ p => p.Pre a
  | _ => True

theorem pass_checks {a : List Int} (p : PropInst) (hw : p.Wf a.length) (hpre : p.Pre a) :
    Decides a p.cons (p.pass (sing a)) := by
  induction p with
  | linLe ts c => exact linLe_decides ts c hw
  | linNe ts c => exact linNe_decides ts c hw
  | abs s r => exact abs_decides s r hw.1 hw.2
  | max xs r => exact max_decides xs r hw.1 hw.2 hpre
  | times x y z => exact times_decides x y z hw.1 hw.2.1 hw.2.2
  | div x y z => exact div_decides x y z hw.1 hw.2.1 hw.2.2 hpre
  | element i xs r => exact element_decides i xs r hw.1 hw.2.1 hw.2.2
  | clause ls => exact clause_decides ls hw
  | cumulative holes ts cap => exact tt_decides holes ts cap hw hpre
  | reified r q ih =>
    -- the literal is decided, so `propagate_reification` does nothing
    simp only [PropInst.pass, atomTrue_sing hw.1, atomFalse_sing hw.1, Bool.or_not_self, Bool.not_true, Bool.false_and,
      Bool.false_eq_true, if_false, Option.bind_some]
    have himp : (PropInst.reified r q).cons.sat a = (!r.holds a || q.cons.sat a) := rfl
    cases hr : r.holds a with
    | false => exact Or.inr ⟨rfl, by rw [himp, hr]; rfl⟩
    | true => exact Step.weaken (ih hw.2 hpre) fun hs => by rw [himp, hr, hs]; rfl

theorem round_sing {a : List Int} (ps : List PropInst) (hw : ∀ p ∈ ps, p.Wf a.length) (hpre : ∀ p ∈ ps, p.Pre a) :
    Step a (∀ p ∈ ps, p.cons.sat a = true) (round ps (sing a)) :=
  Step.loop (fun _ => rfl) (fun _ _ _ => rfl) ps fun p hp => pass_checks p (hw p hp) (hpre p hp)

theorem fixpoint_checks {a : List Int} (ps : List PropInst) (hw : ∀ p ∈ ps, p.Wf a.length) (hpre : ∀ p ∈ ps, p.Pre a)
    (d' : Doms) (hf : fixpoint ps (sing a) = some d') : d' = sing a ∧ ∀ p ∈ ps, p.cons.sat a = true := by
  unfold fixpoint at hf
  rw [show (sing a).any List.isEmpty = false from AtomRup.not_hasEmpty_of_inDoms (inDoms_sing a)] at hf
  simp only [Bool.false_eq_true, if_false, iterate] at hf
  rcases round_sing ps hw hpre with h | ⟨h, hs⟩
  · rw [h] at hf; cases hf
  · rw [h] at hf
    simp only [if_true] at hf
    cases hf
    exact ⟨rfl, hs⟩

end Pumpkin.Pg
