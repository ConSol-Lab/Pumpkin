/-
Layout independence of the DIMACS parser model (`Model/Dimacs.lean`): any file of the layout family
below — comment lines and blank space before the header, a header with arbitrary blank runs, and a
body of literals, each followed by a non-empty white-space run (spaces, tabs, CR, FF, line breaks), and
clause terminators `0`, each followed by a possibly empty one, with comments before the first literal
of a line, clauses broken over lines or several on one line — is parsed to exactly the formula it denotes.
-/
import Pumpkin.Model.Dimacs

namespace Pumpkin.Dimacs

def digits (n : Nat) : List Nat :=
  if h : n < 10 then [48 + n] else digits (n / 10) ++ [48 + n % 10]
termination_by n
decreasing_by omega

theorem natOfDigits_append (xs : List Nat) (d : Nat) :
    natOfDigits (xs ++ [d]) = natOfDigits xs * 10 + (d - 48) := by
  simp [natOfDigits, List.foldl_append]

theorem natOfDigits_digits (n : Nat) : natOfDigits (digits n) = n := by
  fun_induction digits n with
  | case1 n h => simp [natOfDigits]
  | case2 n h ih => rw [natOfDigits_append, ih, Nat.add_sub_cancel_left, Nat.div_add_mod']

theorem digits_all (n : Nat) : (digits n).all isDigit = true := by
  fun_induction digits n with
  | case1 n h => simp [isDigit]; omega
  | case2 n h ih => simp [ih, isDigit]; omega

theorem digits_pos (n : Nat) (hn : 0 < n) : ∃ d rest, digits n = d :: rest ∧ isDigit19 d = true := by
  fun_induction digits n with
  | case1 n h => exact ⟨48 + n, [], rfl, by simp [isDigit19]; omega⟩
  | case2 n h ih =>
    obtain ⟨d, rest, hd, h19⟩ := ih (Nat.div_pos (Nat.le_of_not_lt h) (by decide))
    exact ⟨d, rest ++ [48 + n % 10], by rw [hd]; rfl, h19⟩

theorem digits_ne_nil (n : Nat) : digits n ≠ [] := by
  fun_induction digits n <;> simp

/-- the first byte of a rendered number is a digit (in particular neither `-` nor `+`) -/
theorem digits_head (n : Nat) : ∃ d rest, digits n = d :: rest ∧ isDigit d = true := by
  have h := digits_all n
  cases hd : digits n with
  | nil => exact absurd hd (digits_ne_nil n)
  | cons d rest =>
    rw [hd] at h
    simp only [List.all_cons, Bool.and_eq_true] at h
    exact ⟨d, rest, rfl, h.1⟩

theorem not_contains_of_all {p : Nat → Bool} {l : List Nat} {c : Nat} (hl : l.all p = true) (hc : p c = false) :
    l.contains c = false := by
  apply Bool.eq_false_iff.2
  intro h
  rw [List.all_eq_true.1 hl c (List.contains_iff_mem.1 h)] at hc
  cases hc

theorem digits_no_lf (n : Nat) : (digits n).contains 10 = false := not_contains_of_all (digits_all n) rfl

def renderLit (z : Int) : List Nat := if z > 0 then digits z.natAbs else 45 :: digits z.natAbs

theorem parseI32_digitString {ds : List Nat} (hne : ds ≠ []) (hall : ds.all isDigit = true) :
    parseI32 ds = if natOfDigits ds ≤ 2147483647 then some (natOfDigits ds : Int) else none := by
  unfold parseI32
  split
  · simp [isDigit] at hall
  · simp [hne, hall]

theorem parseI32_minus {ds : List Nat} (hne : ds ≠ []) (hall : ds.all isDigit = true) :
    parseI32 (45 :: ds) = if natOfDigits ds ≤ 2147483648 then some (-(natOfDigits ds : Int)) else none := by
  simp [parseI32, hne, hall]

theorem parseI32_renderLit (z : Int) (hr : -2147483648 ≤ z ∧ z ≤ 2147483647) :
    parseI32 (renderLit z) = some z := by
  unfold renderLit
  split
  · next h =>
    have he : (z.natAbs : Int) = z := Int.natAbs_of_nonneg (Int.le_of_lt h)
    rw [parseI32_digitString (digits_ne_nil _) (digits_all _), natOfDigits_digits, he, if_pos (by omega)]
  · next h =>
    have he : -(z.natAbs : Int) = z := (Int.eq_neg_natAbs_of_nonpos (Int.not_lt.1 h)).symm
    rw [parseI32_minus (digits_ne_nil _) (digits_all _), natOfDigits_digits, he, if_pos (by omega)]

/-- what the parser has to remember between items: whether it is in `StartLine` (no literal since the
last line feed; white space and `0` keep that state), the literals of the open clause, the finished clauses -/
structure A where
  start : Bool
  cur : List Int
  out : List (List Int)

inductive Item
  /-- a literal followed by a non-empty white-space run -/
  | lit (z : Int) (ws : List Nat)
  /-- the clause terminator `0` followed by a (possibly empty) white-space run -/
  | zero (ws : List Nat)
  /-- a comment `c<text>\n`; only while `start` -/
  | comment (text : List Nat)
  | blank (ws : List Nat)

def Item.render : Item → List Nat
  | .lit z ws => renderLit z ++ ws
  | .zero ws => 48 :: ws
  | .comment t => 99 :: t ++ [10]
  | .blank ws => ws

def Item.ok (a : A) : Item → Prop
  | .lit z ws => z ≠ 0 ∧ (-2147483648 ≤ z ∧ z ≤ 2147483647) ∧ ws ≠ [] ∧ ws.all isWs = true
  | .zero ws => ws.all isWs = true
  | .comment t => a.start = true ∧ t.contains 10 = false
  | .blank ws => ws.all isWs = true

def Item.apply (a : A) : Item → A
  | .lit z ws => { start := ws.contains 10, cur := a.cur ++ [z], out := a.out }
  | .zero ws => { start := a.start || ws.contains 10, cur := [], out := a.out ++ [a.cur] }
  | .comment _ => a
  | .blank ws => { a with start := a.start || ws.contains 10 }

def Valid : A → List Item → Prop
  | _, [] => True
  | a, i :: is => i.ok a ∧ Valid (i.apply a) is

def renderAll (is : List Item) : List Nat := is.flatMap Item.render

/-! All lemmas speak of the two kinds of state below, so that a run is an equation between states and the
buffer, which is never read between tokens, is carried along as a parameter. -/

/-- the parser state between two tokens of the body, rebuilt from what `A` remembers -/
def conc (a : A) (buf : List Nat) (hdr : Option (Nat × Nat)) : P :=
  { st := if a.start then .startLine else .clause, buf := buf, cur := a.cur, hdr := hdr, out := a.out }

def inLit (a : A) (buf : List Nat) (hdr : Option (Nat × Nat)) : P :=
  { st := .literal, buf := buf, cur := a.cur, hdr := hdr, out := a.out }

theorem isWs_ne_zero {b : Nat} (h : isWs b = true) : (b == 48) = false := by
  cases h48 : b == 48
  · rfl
  · rw [eq_of_beq h48] at h; cases h

theorem isDigit19_isDigit {d : Nat} (h : isDigit19 d = true) : isDigit d = true := by
  simp [isDigit19, isDigit] at *; omega

theorem isDigit19_not_special {d : Nat} (h : isDigit19 d = true) :
    (d == 112) = false ∧ (d == 99) = false ∧ (d == 48) = false := by
  simp only [isDigit19, Bool.and_eq_true, decide_eq_true_eq] at h
  simp only [beq_eq_false_iff_ne, ne_eq]
  omega

theorem isDigit_not_ws {d : Nat} (h : isDigit d = true) : isWs d = false ∧ isHdrWs d = false ∧ (d == 10) = false := by
  simp only [isDigit, Bool.and_eq_true, decide_eq_true_eq] at h
  simp only [isWs, isHdrWs, Bool.or_eq_false_iff, Bool.and_eq_false_iff, decide_eq_false_iff_not,
    beq_eq_false_iff_ne, ne_eq]
  omega

section
variable (a : A) (buf : List Nat) (hdr : Option (Nat × Nat))

theorem step_ws {b : Nat} (hb : isWs b = true) :
    step (conc a buf hdr) b = .ok (conc { a with start := a.start || b == 10 } buf hdr) := by
  obtain ⟨start, cur, out⟩ := a
  cases start
  · cases h10 : b == 10 <;> simp [step, conc, isWs_ne_zero hb, hb, h10]
  · simp [step, conc, hb]

theorem step_digit19 {d : Nat} (hd : isDigit19 d = true) :
    step (conc a buf hdr) d = .ok (inLit a [d] hdr) := by
  obtain ⟨h112, h99, h48⟩ := isDigit19_not_special hd
  obtain ⟨hw, _, h10⟩ := isDigit_not_ws (isDigit19_isDigit hd)
  cases hs : a.start <;> simp [step, conc, inLit, startLiteral, hs, hw, h112, h99, h48, h10, hd]

theorem step_minus : step (conc a buf hdr) 45 = .ok { inLit a [45] hdr with st := .negLiteral } := by
  obtain ⟨start, cur, out⟩ := a
  cases start <;> rfl

theorem step_neg_digit19 {d : Nat} (hd : isDigit19 d = true) :
    step { inLit a [45] hdr with st := .negLiteral } d = .ok (inLit a [45, d] hdr) := by
  simp [step, inLit, hd]

theorem step_digit {d : Nat} (hd : isDigit d = true) :
    step (inLit a buf hdr) d = .ok (inLit a (buf ++ [d]) hdr) := by
  simp [step, inLit, (isDigit_not_ws hd).1, hd]

theorem step_lit_end {w : Nat} (hw : isWs w = true) {z : Int} (hz : parseI32 buf = some z) :
    step (inLit a buf hdr) w = .ok (conc ⟨w == 10, a.cur ++ [z], a.out⟩ buf hdr) := by
  simp only [step, inLit, hw, finishLiteral, hz, conc]
  cases w == 10 <;> rfl

theorem run_ws (w : List Nat) (hw : w.all isWs = true) :
    run (conc a buf hdr) w = .ok (conc { a with start := a.start || w.contains 10 } buf hdr) := by
  induction w generalizing a with
  | nil => simp [run]
  | cons b bs ih =>
    simp only [List.all_cons, Bool.and_eq_true] at hw
    simp only [run, step_ws a buf hdr hw.1, ih _ hw.2, List.contains_cons, Bool.or_assoc, Bool.beq_comm (a := 10)]

theorem run_digits (ds : List Nat) (hd : ds.all isDigit = true) :
    run (inLit a buf hdr) ds = .ok (inLit a (buf ++ ds) hdr) := by
  induction ds generalizing buf with
  | nil => simp [run]
  | cons d rest ih =>
    simp only [List.all_cons, Bool.and_eq_true] at hd
    simp only [run, step_digit a buf hdr hd.1, ih _ hd.2, List.append_assoc, List.singleton_append]

theorem run_renderLit (z : Int) (hz : z ≠ 0) :
    run (conc a buf hdr) (renderLit z) = .ok (inLit a (renderLit z) hdr) := by
  obtain ⟨d, rest, hd, h19⟩ := digits_pos z.natAbs (Int.natAbs_pos.2 hz)
  have hr := digits_all z.natAbs
  rw [hd, List.all_cons, Bool.and_eq_true] at hr
  unfold renderLit
  split
  · simp only [hd, run, step_digit19 a buf hdr h19]
    exact run_digits a [d] hdr rest hr.2
  · simp only [hd, run, step_minus, step_neg_digit19 a hdr h19]
    exact run_digits a [45, d] hdr rest hr.2

theorem run_comment (hs : a.start = true) (text : List Nat) (ht : text.contains 10 = false) :
    run (conc a buf hdr) (99 :: text ++ [10]) = .ok (conc a buf hdr) := by
  obtain ⟨_, cur, out⟩ := a
  cases hs
  have hc : ∀ t : List Nat, t.contains 10 = false →
      run { conc ⟨true, cur, out⟩ buf hdr with st := .comment } (t ++ [10]) = .ok (conc ⟨true, cur, out⟩ buf hdr) := by
    intro t
    induction t with
    | nil => intro _; rfl
    | cons b bs ih =>
      intro hb
      simp only [List.contains_cons, Bool.or_eq_false_iff, Bool.beq_comm (a := 10)] at hb
      simp only [List.cons_append, run, step, hb.1, Bool.false_eq_true, if_false]
      exact ih hb.2
  -- the leading `c` is stepped over by evaluation
  exact hc text ht

end

theorem step_zero (a : A) (buf : List Nat) (hdr : Nat × Nat) :
    step (conc a buf (some hdr)) 48 = .ok (conc { a with cur := [], out := a.out ++ [a.cur] } buf (some hdr)) := by
  obtain ⟨start, cur, out⟩ := a
  cases start <;> rfl

theorem run_item (a : A) (buf : List Nat) (hdr : Nat × Nat) (i : Item) (hok : i.ok a) :
    ∃ buf', run (conc a buf (some hdr)) i.render = .ok (conc (i.apply a) buf' (some hdr)) := by
  cases i with
  | blank ws => exact ⟨buf, run_ws a buf _ ws hok⟩
  | comment t => exact ⟨buf, run_comment a buf _ hok.1 t hok.2⟩
  | zero ws => exact ⟨buf, by simp only [Item.render, run, step_zero, run_ws _ _ _ ws hok, Item.apply]⟩
  | lit z ws =>
    obtain ⟨hz, hrange, hne, hws⟩ := hok
    cases ws with
    | nil => exact absurd rfl hne
    | cons w ws =>
      rw [List.all_cons, Bool.and_eq_true] at hws
      refine ⟨renderLit z, ?_⟩
      rw [Item.render, run_append_ok (run_renderLit a buf _ z hz)]
      simp only [run, step_lit_end a _ _ hws.1 (parseI32_renderLit z hrange), run_ws _ _ _ ws hws.2, Item.apply,
        List.contains_cons, Bool.beq_comm (a := 10)]

theorem run_items (is : List Item) (a : A) (buf : List Nat) (hdr : Nat × Nat) (hv : Valid a is) :
    ∃ buf', run (conc a buf (some hdr)) (renderAll is) = .ok (conc (is.foldl Item.apply a) buf' (some hdr)) := by
  induction is generalizing a buf with
  | nil => exact ⟨buf, rfl⟩
  | cons i is ih =>
    obtain ⟨buf1, h1⟩ := run_item a buf hdr i hv.1
    obtain ⟨buf2, h2⟩ := ih (i.apply a) buf1 hv.2
    exact ⟨buf2, (run_append_ok h1 _).trans h2⟩

theorem parseUsize_digitString {ds : List Nat} (hne : ds ≠ []) (hall : ds.all isDigit = true) :
    parseUsize ds = if natOfDigits ds ≤ 18446744073709551615 then some (natOfDigits ds) else none := by
  have hs : stripPlus ds = ds := by
    unfold stripPlus
    split
    · simp [isDigit] at hall
    · rfl
  simp [parseUsize, hs, hne, hall]

theorem parseUsize_digits (n : Nat) (h : n ≤ 18446744073709551615) : parseUsize (digits n) = some n := by
  rw [parseUsize_digitString (digits_ne_nil n) (digits_all n), natOfDigits_digits, if_pos h]

theorem startsWith_append (a b : List Nat) : startsWith a (a ++ b) = true := by
  induction a with
  | nil => rfl
  | cons x xs ih => simp [startsWith, ih]

theorem tokensAux_digits (t rest acc : List Nat) (ht : t.all isDigit = true) :
    tokensAux (t ++ rest) acc = tokensAux rest (acc ++ t) := by
  induction t generalizing acc with
  | nil => simp
  | cons b bs ih =>
    simp only [List.all_cons, Bool.and_eq_true] at ht
    simp only [List.cons_append, tokensAux, (isDigit_not_ws ht.1).2.1, Bool.false_eq_true, if_false]
    rw [ih (acc ++ [b]) ht.2]
    simp

theorem tokensAux_ws_nil (w rest : List Nat) (hw : w.all isHdrWs = true) :
    tokensAux (w ++ rest) [] = tokensAux rest [] := by
  induction w with
  | nil => rfl
  | cons b bs ih =>
    simp only [List.all_cons, Bool.and_eq_true] at hw
    simp only [List.cons_append, tokensAux, hw.1, if_true, List.isEmpty_nil]
    exact ih hw.2

theorem tokensAux_ws (w rest acc : List Nat) (hw : w.all isHdrWs = true) (hne : w ≠ []) (hacc : acc ≠ []) :
    tokensAux (w ++ rest) acc = acc :: tokensAux rest [] := by
  cases w with
  | nil => exact absurd rfl hne
  | cons b bs =>
    simp only [List.all_cons, Bool.and_eq_true] at hw
    simp only [List.cons_append, tokensAux, hw.1, if_true, List.isEmpty_iff, hacc, if_false]
    rw [tokensAux_ws_nil bs rest hw.2]

def headerBytes (sp1 : List Nat) (nv : Nat) (sp2 : List Nat) (nc : Nat) (sp3 : List Nat) : List Nat :=
  cnfPrefix ++ (sp1 ++ (digits nv ++ (sp2 ++ (digits nc ++ sp3))))

theorem parseHeader_headerBytes (sp1 sp2 sp3 : List Nat) (nv nc : Nat)
    (h1 : sp1.all isHdrWs = true) (h2 : sp2.all isHdrWs = true) (h2ne : sp2 ≠ [])
    (h3 : sp3.all isHdrWs = true) (hnv : nv ≤ 18446744073709551615) (hnc : nc ≤ 18446744073709551615) :
    parseHeader (headerBytes sp1 nv sp2 nc sp3) = some (nv, nc) := by
  have htok : tokens (headerBytes sp1 nv sp2 nc sp3) = [[112], [99, 110, 102], digits nv, digits nc] := by
    -- `p cnf ` by evaluation
    show [112] :: [99, 110, 102] :: tokensAux (sp1 ++ (digits nv ++ (sp2 ++ (digits nc ++ sp3)))) [] = _
    rw [tokensAux_ws_nil sp1 _ h1, tokensAux_digits (digits nv) _ [] (digits_all nv), List.nil_append,
      tokensAux_ws sp2 _ (digits nv) h2 h2ne (digits_ne_nil nv),
      tokensAux_digits (digits nc) _ [] (digits_all nc), List.nil_append]
    cases sp3 with
    | nil => simp [tokensAux, digits_ne_nil]
    | cons b bs =>
      rw [← List.append_nil (b :: bs), tokensAux_ws (b :: bs) [] (digits nc) h3 (by simp) (digits_ne_nil nc)]
      simp [tokensAux]
  unfold parseHeader
  have hsw : startsWith cnfPrefix (headerBytes sp1 nv sp2 nc sp3) = true := startsWith_append _ _
  simp only [hsw, Bool.not_true, Bool.false_eq_true, if_false, htok, List.drop_succ_cons, List.drop_zero,
    parseUsize_digits nv hnv, parseUsize_digits nc hnc]

/-- the header line is buffered up to the line break and parsed there -/
theorem run_header (a : A) (buf : List Nat) (hs : a.start = true) (line : List Nat) (hp : line.head? = some 112)
    (hlf : line.contains 10 = false) (h : Nat × Nat) (hh : parseHeader line = some h) :
    run (conc a buf none) (line ++ [10]) = .ok (conc a line (some h)) := by
  obtain ⟨_, cur, out⟩ := a
  cases hs
  have hc : ∀ (t b : List Nat), t.contains 10 = false →
      run { conc ⟨true, cur, out⟩ buf none with st := .header, buf := b } t =
        .ok { conc ⟨true, cur, out⟩ buf none with st := .header, buf := b ++ t } := by
    intro t
    induction t with
    | nil => intro b _; simp [run]
    | cons x xs ih =>
      intro b hx
      simp only [List.contains_cons, Bool.or_eq_false_iff, Bool.beq_comm (a := 10)] at hx
      simp only [run, step, hx.1, Bool.false_eq_true, if_false, ih _ hx.2, List.append_assoc, List.singleton_append]
  cases line with
  | nil => cases hp
  | cons p t =>
    cases hp
    simp only [List.contains_cons, Bool.or_eq_false_iff] at hlf
    -- the leading `p` is stepped over by evaluation
    refine (run_append_ok (hc t [112] hlf.2) _).trans ?_
    simp [run, step, initFormula, conc, hh]

def Prelude (is : List Item) : Prop :=
  ∀ i ∈ is, match i with
    | .comment t => t.contains 10 = false
    | .blank ws => ws.all isWs = true
    | _ => False

theorem run_prelude (is : List Item) (hp : Prelude is) (a : A) (buf : List Nat) (hdr : Option (Nat × Nat))
    (hs : a.start = true) : run (conc a buf hdr) (renderAll is) = .ok (conc a buf hdr) := by
  induction is with
  | nil => rfl
  | cons i is ih =>
    obtain ⟨hi, hrest⟩ := List.forall_mem_cons.1 hp
    refine (run_append_ok ?_ _).trans (ih hrest)
    cases i with
    | comment t => exact run_comment a buf hdr hs t hi
    | blank ws => rw [Item.render, run_ws a buf hdr ws hi]; simp [conc, hs]
    | lit z ws => exact hi.elim
    | zero ws => exact hi.elim

def denotes (body : List Item) : A := body.foldl Item.apply { start := true, cur := [], out := [] }

theorem complete_conc (a : A) (buf : List Nat) (nv : Nat) (h : a.cur = []) :
    complete (conc a buf (some (nv, a.out.length))) = .ok (nv, a.out) := by
  cases hs : a.start <;> simp [complete, conc, hs, h]

/-- `hbody`: comments only before the first literal of a line, literals non-zero and within `i32`; `hden`: the
last clause is terminated and the declared clause count is right. -/
theorem layout_independent (pre body : List Item) (sp1 sp2 sp3 : List Nat) (nv : Nat)
    (clauses : List (List Int))
    (hpre : Prelude pre)
    (h1 : sp1.all isHdrWs = true) (h2 : sp2.all isHdrWs = true) (h2ne : sp2 ≠ [])
    (h3 : sp3.all isHdrWs = true)
    (hno10 : (sp1 ++ sp2 ++ sp3).contains 10 = false)
    (hnv : nv ≤ 18446744073709551615) (hnc : clauses.length ≤ 18446744073709551615)
    (hbody : Valid { start := true, cur := [], out := [] } body)
    (hden : (denotes body).cur = [] ∧ (denotes body).out = clauses) :
    parseCnf (renderAll pre ++ (headerBytes sp1 nv sp2 clauses.length sp3 ++ [10] ++ renderAll body))
      = .ok (nv, clauses) := by
  have hlf : (headerBytes sp1 nv sp2 clauses.length sp3).contains 10 = false := by
    simp only [List.contains_append, Bool.or_eq_false_iff] at hno10
    simp only [headerBytes, List.contains_append, hno10, digits_no_lf, Bool.or_false]
    rfl  -- evaluates `cnfPrefix.contains 10`
  obtain ⟨buf, hb⟩ := run_items body ⟨true, [], []⟩ (headerBytes sp1 nv sp2 clauses.length sp3)
    (nv, clauses.length) hbody
  rw [parseCnf, show ({} : P) = conc ⟨true, [], []⟩ [] none from rfl,
    run_append_ok (run_prelude pre hpre ⟨true, [], []⟩ [] none rfl),
    -- `run_header`: the first `rfl` is `start = true`, the second that the line begins with `p`
    run_append_ok (run_header ⟨true, [], []⟩ [] rfl _ rfl hlf _
      (parseHeader_headerBytes sp1 sp2 sp3 nv clauses.length h1 h2 h2ne h3 hnv hnc)), hb, ← hden.2]
  exact complete_conc _ _ _ hden.1

end Pumpkin.Dimacs
