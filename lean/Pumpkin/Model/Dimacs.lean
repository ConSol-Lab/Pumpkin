/-
Model of the byte-level DIMACS parser, CNF and WCNF
(`pumpkin-solver/src/bin/pumpkin-solver/parsers/dimacs.rs`).

Bytes are natural numbers. The parser state mirrors the Rust struct: `st` = `ParseState`,
`buf` = `buffer`, `cur` = `clause`, `hdr` = `header`/`sink` (present together), `out` = the clauses
handed to the sink (so `parsed_clauses = out.length`).

Differences in formulation (validated by the exact correspondence run, not proved):
* the header text is handled as bytes `< 128` (the Rust code turns each byte into a `char`, so bytes
  `≥ 128` become Latin-1 characters, of which U+0085 and U+00A0 are Unicode white space);
* `buffer.trim()` is not modelled separately: the buffer always starts with `p`, and whenever
  trimming the end would destroy the prefix `"p cnf "` everything after `p cnf` is white space, in
  which case both formulations answer `InvalidHeader` (too few components).
-/
namespace Pumpkin.Dimacs

inductive PS | startLine | header | comment | literal | negLiteral | clause
deriving DecidableEq, Repr

inductive Err
  | missingHeader | invalidHeader | duplicateHeader | unexpectedChar (b : Nat) | invalidLiteral
  | unterminated | clauseCount (expected parsed : Nat)
  /-- WCNF only: the clause callback indexes `clause[0]` and converts it to a `NonZeroU32` weight -/
  | panicked
deriving DecidableEq, Repr

structure P where
  st : PS := .startLine
  buf : List Nat := []
  cur : List Int := []
  hdr : Option (Nat × Nat) := none
  out : List (List Int) := []
  /-- `parse_wcnf` instead of `parse_cnf`: header `p wcnf <vars> <clauses> <top>`, first number of
  every clause is its weight -/
  wcnf : Bool := false
  top : Nat := 0
deriving DecidableEq, Repr

/-- `u8::is_ascii_whitespace`: space, tab, LF, FF, CR (not VT) -/
def isWs (b : Nat) : Bool := b == 32 || b == 9 || b == 10 || b == 12 || b == 13
/-- `char::is_whitespace` restricted to ASCII: additionally VT -/
def isHdrWs (b : Nat) : Bool := b == 32 || (9 ≤ b && b ≤ 13)
def isDigit (b : Nat) : Bool := 48 ≤ b && b ≤ 57
def isDigit19 (b : Nat) : Bool := 49 ≤ b && b ≤ 57

def natOfDigits (ds : List Nat) : Nat := ds.foldl (fun acc d => acc * 10 + (d - 48)) 0

/-- `str::parse::<i32>` on a buffer of the shape the parser builds: optional `-`, then digits -/
def parseI32 (buf : List Nat) : Option Int :=
  match buf with
  | 45 :: ds =>
    if ds.isEmpty || !ds.all isDigit then none
    else if natOfDigits ds ≤ 2147483648 then some (-(natOfDigits ds : Int)) else none
  | ds =>
    if ds.isEmpty || !ds.all isDigit then none
    else if natOfDigits ds ≤ 2147483647 then some (natOfDigits ds : Int) else none

def stripPlus : List Nat → List Nat
  | 43 :: r => r
  | r => r

/-- `str::parse::<usize>` (64-bit): optional `+`, then at least one digit, value `< 2^64` -/
def parseUsize (tok : List Nat) : Option Nat :=
  let ds := stripPlus tok
  if ds.isEmpty || !ds.all isDigit then none
  else if natOfDigits ds ≤ 18446744073709551615 then some (natOfDigits ds) else none

/-- `str::split_whitespace` on ASCII -/
def tokensAux : List Nat → List Nat → List (List Nat)
  | [], acc => if acc.isEmpty then [] else [acc]
  | b :: rest, acc =>
    if isHdrWs b then (if acc.isEmpty then tokensAux rest [] else acc :: tokensAux rest [])
    else tokensAux rest (acc ++ [b])

def tokens (s : List Nat) : List (List Nat) := tokensAux s []

/-- "p cnf " -/
def cnfPrefix : List Nat := [112, 32, 99, 110, 102, 32]

def startsWith : List Nat → List Nat → Bool
  | [], _ => true
  | _ :: _, [] => false
  | a :: as, b :: bs => a == b && startsWith as bs

/-- `CNFHeader::from_str` -/
def parseHeader (buf : List Nat) : Option (Nat × Nat) :=
  if !startsWith cnfPrefix buf then none
  else
    match (tokens buf).drop 2 with
    | [a, b] =>
      match parseUsize a, parseUsize b with
      | some nv, some nc => some (nv, nc)
      | _, _ => none
    | _ => none

/-- "p wcnf " -/
def wcnfPrefix : List Nat := [112, 32, 119, 99, 110, 102, 32]

/-- `WCNFHeader::from_str` (the top weight is a `u64`, parsed like a `usize` here: 64 bit) -/
def parseHeaderW (buf : List Nat) : Option (Nat × Nat × Nat) :=
  if !startsWith wcnfPrefix buf then none
  else
    match (tokens buf).drop 2 with
    | [a, b, c] =>
      match parseUsize a, parseUsize b, parseUsize c with
      | some nv, some nc, some top => some (nv, nc, top)
      | _, _, _ => none
    | _ => none

def initFormula (p : P) : Except Err P :=
  if p.wcnf then
    match parseHeaderW p.buf with
    | none => .error .invalidHeader
    | some (nv, nc, top) =>
      match p.hdr with
      | some _ => .error .duplicateHeader
      | none => .ok { p with hdr := some (nv, nc), top := top }
  else
    match parseHeader p.buf with
    | none => .error .invalidHeader
    | some h =>
      match p.hdr with
      | some _ => .error .duplicateHeader
      | none => .ok { p with hdr := some h }

def finishClause (p : P) : Except Err P :=
  match p.hdr with
  | none => .error .missingHeader
  | some _ =>
    if p.wcnf then
      -- the callback of `parse_wcnf`: `clause[0].try_into::<NonZeroU32>().unwrap()`
      match p.cur with
      | [] => .error .panicked
      | w :: _ => if w ≤ 0 then .error .panicked else .ok { p with out := p.out ++ [p.cur], cur := [] }
    else .ok { p with out := p.out ++ [p.cur], cur := [] }

def finishLiteral (p : P) : Except Err P :=
  match parseI32 p.buf with
  | none => .error .invalidLiteral
  | some z => .ok { p with cur := p.cur ++ [z], st := .clause }

def startLiteral (p : P) (b : Nat) (positive : Bool) : P :=
  { p with st := if positive then .literal else .negLiteral, buf := [b] }

/-- one byte of `parse_chunk` -/
def step (p : P) (b : Nat) : Except Err P :=
  match p.st with
  | .startLine =>
    if isWs b then .ok p
    else if b == 112 then .ok { p with st := .header, buf := [112] }
    else if b == 99 then .ok { p with st := .comment }
    else if isDigit19 b then .ok (startLiteral p b true)
    else if b == 48 then finishClause p
    else if b == 45 then .ok (startLiteral p 45 false)
    else .error (.unexpectedChar b)
  | .header =>
    if b == 10 then
      match initFormula p with
      | .ok p' => .ok { p' with st := .startLine }
      | .error e => .error e
    else .ok { p with buf := p.buf ++ [b] }
  | .comment => if b == 10 then .ok { p with st := .startLine } else .ok p
  | .literal =>
    if isWs b then
      match finishLiteral p with
      | .ok p' => .ok (if b == 10 then { p' with st := .startLine } else p')
      | .error e => .error e
    else if isDigit b then .ok { p with buf := p.buf ++ [b] }
    else .error (.unexpectedChar b)
  | .negLiteral =>
    if isDigit19 b then .ok { p with buf := p.buf ++ [b], st := .literal }
    else .error (.unexpectedChar b)
  | .clause =>
    if b == 48 then finishClause p
    else if b == 10 then .ok { p with st := .startLine }
    else if isWs b then .ok p
    else if isDigit19 b then .ok (startLiteral p b true)
    else if b == 45 then .ok (startLiteral p 45 false)
    else .error (.unexpectedChar b)

def run : P → List Nat → Except Err P
  | p, [] => .ok p
  | p, b :: bs =>
    match step p b with
    | .ok p' => run p' bs
    | .error e => .error e

/-- `DimacsParser::complete` -/
def complete (p : P) : Except Err (Nat × List (List Int)) :=
  match (if p.st == .header then initFormula p else .ok p) with
  | .error e => .error e
  | .ok p =>
    match p.hdr with
    | none => .error .missingHeader
    | some (nv, nc) =>
      if !p.cur.isEmpty then .error .unterminated
      else if nc ≠ p.out.length then .error (.clauseCount nc p.out.length)
      else .ok (nv, p.out)

/-- `parse_cnf` on a whole file (chunk boundaries do not matter: `parse_chunk` is a fold) -/
def parseCnf (bytes : List Nat) : Except Err (Nat × List (List Int)) :=
  match run {} bytes with
  | .error e => .error e
  | .ok p => complete p

/-- `parse_wcnf`: hard clauses (weight = top) and weighted soft clauses, in file order -/
def parseWcnf (bytes : List Nat) : Except Err (Nat × List (Option Nat × List Int)) :=
  match run { wcnf := true } bytes with
  | .error e => .error e
  | .ok p =>
    match (if p.st == .header then initFormula p else .ok p) with
    | .error e => .error e
    | .ok p =>
      match p.hdr with
      | none => .error .missingHeader
      | some (nv, nc) =>
        if !p.cur.isEmpty then .error .unterminated
        else if nc ≠ p.out.length then .error (.clauseCount nc p.out.length)
        else .ok (nv, p.out.map (fun c =>
          match c with
          | w :: rest => if w.toNat == p.top then (none, rest) else (some w.toNat, rest)
          | [] => (none, [])))  -- not reached: `finishClause` rejects an empty WCNF clause

theorem run_append (p : P) (xs ys : List Nat) :
    run p (xs ++ ys) = (match run p xs with | .ok p' => run p' ys | .error e => .error e) := by
  induction xs generalizing p with
  | nil => rfl
  | cons b bs ih =>
    simp only [List.cons_append, run]
    cases step p b with
    | ok p' => exact ih p'
    | error e => rfl

theorem run_append_ok {p p' : P} {xs : List Nat} (h : run p xs = .ok p') (ys : List Nat) :
    run p (xs ++ ys) = run p' ys := by
  rw [run_append, h]

end Pumpkin.Dimacs
