/-
Historic bound queries of the domain store (`lower_bound_at_trail_position`,
`upper_bound_at_trail_position`, used by lazy explanations and conflict analysis): the bound reported for
trail position `p` is the current bound of the store replayed up to and including the entry at `p`.
-/
import Pumpkin.Model.AssignmentsState

namespace Pumpkin.Asg

open IDom St

/-- the state of the trail right after the entry at position `p` (positions count from the oldest entry) -/
def upTo (t : List Entry) (p : Nat) : List Entry := t.drop (t.length - (p + 1))

theorem upTo_cons_lt (e : Entry) (r : List Entry) (p : Nat) (hp : p < r.length) :
    upTo (e :: r) p = upTo r p := by
  show (e :: r).drop (r.length + 1 - (p + 1)) = _
  rw [Nat.succ_sub hp, List.drop_succ_cons]; rfl

theorem upTo_last (t : List Entry) (p : Nat) (hp : t.length ≤ p + 1) : upTo t p = t := by
  unfold upTo
  rw [Nat.sub_eq_zero_of_le hp]; rfl

/-- what one `IntegerDomain` operation at level `l` and position `n` does to a bound list: nothing, or
it pushes one update with that stamp -/
def Pushed (l n : Nat) (us us' : List BU) : Prop := us' = us ∨ ∃ b, us' = ⟨b, l, n⟩ :: us

theorem setLb_pushed (d : IDom) (k : Int) (l pos : Nat) : Pushed l pos d.lbs (d.setLb k l pos).lbs := by
  rcases setLb_cases d k l pos with ⟨_, e⟩ | ⟨_, b, e, _⟩ <;> rw [e]
  · exact .inl rfl
  · exact .inr ⟨b, rfl⟩

theorem setUb_pushed (d : IDom) (k : Int) (l pos : Nat) : Pushed l pos d.ubs (d.setUb k l pos).ubs := by
  rcases setUb_cases d k l pos with ⟨_, e⟩ | ⟨_, b, e, _⟩ <;> rw [e]
  · exact .inl rfl
  · exact .inr ⟨b, rfl⟩

theorem removeValue_pushed (d : IDom) (v : Int) (l pos : Nat) :
    Pushed l pos d.lbs (d.removeValue v l pos).lbs ∧ Pushed l pos d.ubs (d.removeValue v l pos).ubs := by
  by_cases hm : d.mem v
  · rw [removeValue_of_mem d v l pos hm]
    rcases trimLb_cases { d with hus := ⟨v, l, pos, false, false⟩ :: d.hus } v l pos rfl with
      ⟨_, e1⟩ | ⟨_, bl, e1, _⟩ <;> rw [e1]
    · rcases trimUb_cases { d with hus := ⟨v, l, pos, false, false⟩ :: d.hus } v l pos rfl with
        ⟨_, e2⟩ | ⟨_, bu, e2, _⟩ <;> rw [e2]
      · exact ⟨.inl rfl, .inl rfl⟩
      · exact ⟨.inl rfl, .inr ⟨bu, rfl⟩⟩
    · rcases trimUb_cases (IDom.mk (⟨bl, l, pos⟩ :: d.lbs) d.ubs (⟨v, l, pos, true, false⟩ :: d.hus)) v l pos rfl with
        ⟨_, e2⟩ | ⟨_, bu, e2, _⟩ <;> rw [e2]
      · exact ⟨.inr ⟨bl, rfl⟩, .inl rfl⟩
      · exact ⟨.inr ⟨bl, rfl⟩, .inr ⟨bu, rfl⟩⟩
  · rw [removeValue_of_not_mem d v l pos hm]; exact ⟨.inl rfl, .inl rfl⟩

theorem applyAtom_pushed (d : IDom) (a : Atom) (l pos : Nat) :
    Pushed l pos d.lbs (applyAtom d a l pos).lbs ∧ Pushed l pos d.ubs (applyAtom d a l pos).ubs := by
  cases a with
  | ge x k => exact ⟨setLb_pushed _ _ _ _, .inl (setLb_ubs _ _ _ _)⟩
  | le x k => exact ⟨.inl (setUb_lbs _ _ _ _), setUb_pushed _ _ _ _⟩
  | ne x k => exact removeValue_pushed _ _ _ _
  | eq x k => exact ⟨.inl rfl, .inl rfl⟩

def Stamped (n : Nat) (us : List BU) : Prop := us ≠ [] ∧ ∀ u ∈ us, u.pos < n

theorem Stamped.mono {n : Nat} {us : List BU} (h : Stamped n us) : Stamped (n + 1) us :=
  ⟨h.1, fun u hu => Nat.lt_succ_of_lt (h.2 u hu)⟩

theorem Stamped.push {n l : Nat} {us us' : List BU} (h : Stamped n us) (hs : Pushed l n us us') :
    Stamped (n + 1) us' := by
  rcases hs with rfl | ⟨b, rfl⟩
  · exact h.mono
  · refine ⟨by simp, fun u hu => ?_⟩
    rcases List.mem_cons.1 hu with rfl | hu
    · exact Nat.lt_succ_self _
    · exact Nat.lt_succ_of_lt (h.2 u hu)

theorem Stamped.find {p : Nat} {us : List BU} (h : Stamped (p + 1) us) :
    us.find? (fun u => decide (u.pos ≤ p)) = us.head? := by
  obtain ⟨hne, hp⟩ := h
  cases us with
  | nil => exact absurd rfl hne
  | cons a r => simp [Nat.le_of_lt_succ (hp a (by simp))]

theorem Pushed.find {n p l : Nat} {us us' : List BU} (hs : Pushed l n us us') (hp : p < n) :
    us'.find? (fun u => decide (u.pos ≤ p)) = us.find? (fun u => decide (u.pos ≤ p)) := by
  rcases hs with rfl | ⟨b, rfl⟩
  · rfl
  · -- the pushed update has `pos = n > p`
    exact List.find?_cons_of_neg fun h => Nat.not_le.2 hp (of_decide_eq_true h)

theorem build_stamped (t : List Entry) (h : WF t) (x : Nat) (hx : x < (build t).length) :
    Stamped t.length ((build t).getD x default).lbs ∧ Stamped t.length ((build t).getD x default).ubs :=
  build_forall (P := fun n d => Stamped n d.lbs ∧ Stamped n d.ubs)
    (mono := fun _ _ h => ⟨h.1.mono, h.2.mono⟩)
    (new := fun _ _ _ => by simp [Stamped, IDom.new])
    (step := fun _ d a l h => ⟨h.1.push (applyAtom_pushed d a l _).1, h.2.push (applyAtom_pushed d a l _).2⟩)
    t h x hx

theorem build_length_upTo (t : List Entry) (p : Nat) : (build (upTo t p)).length ≤ (build t).length := by
  induction t with
  | nil => simp [upTo]
  | cons e r ih =>
    by_cases hp : p < r.length
    · rw [upTo_cons_lt e r p hp]
      exact Nat.le_trans ih (build_length_le e r)
    · rw [upTo_last _ _ (Nat.succ_le_succ (Nat.not_lt.1 hp))]; exact Nat.le_refl _

theorem boundsAt_spec : ∀ (t : List Entry), WF t → ∀ (x p : Nat), p < t.length →
    x < (build (upTo t p)).length →
    ((build t).getD x default).lbAt p = ((build (upTo t p)).getD x default).lb ∧
    ((build t).getD x default).ubAt p = ((build (upTo t p)).getD x default).ub := by
  intro t
  induction t with
  | nil => intro _ x p hp; simp at hp
  | cons e r ih =>
    intro hwf x p hp hx'
    by_cases hpl : p < r.length
    · -- an older position: the newest entry is invisible
      rw [upTo_cons_lt e r p hpl] at hx' ⊢
      have hxr : x < (build r).length := Nat.lt_of_lt_of_le hx' (build_length_upTo r p)
      have ihx := ih hwf.1 x p hpl hx'
      rcases build_cons_cases hwf with ⟨_, _, _, hb⟩ | ⟨_, _, _, hb⟩ | ⟨_, _, _, hb⟩ <;> rw [hb]
      · rw [getD_append_lt _ _ _ _ hxr]; exact ihx
      · exact ihx
      · by_cases hxe : e.atom.var = x
        · subst hxe
          rw [getD_set_self _ _ _ _ hxr, ← ihx.1, ← ihx.2]
          unfold IDom.lbAt IDom.ubAt
          rw [(applyAtom_pushed ..).1.find hpl, (applyAtom_pushed ..).2.find hpl]
          exact ⟨rfl, rfl⟩
        · rw [getD_set_ne _ _ _ _ _ hxe]; exact ihx
    · -- the newest position: every update is visible, the newest one is the current bound
      have hpe : p + 1 = (e :: r).length := Nat.le_antisymm hp (Nat.succ_le_succ (Nat.not_lt.1 hpl))
      rw [upTo_last _ _ (Nat.le_of_eq hpe.symm)] at hx' ⊢
      obtain ⟨hl, hu⟩ := build_stamped _ hwf x hx'
      rw [← hpe] at hl hu
      unfold IDom.lbAt IDom.ubAt IDom.lb IDom.ub
      rw [hl.find, hu.find]
      constructor
      · cases ((build (e :: r)).getD x default).lbs <;> rfl
      · cases ((build (e :: r)).getD x default).ubs <;> rfl

end Pumpkin.Asg
