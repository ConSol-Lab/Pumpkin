/-
Soundness of the two non-linear propagator models, `timesPass` and `divPass`, their rules first stated over
integers (`A`, `B`, `C` … the value of a view, between the bounds read from the domains); then, with all passes
done, of every propagator instance, a round and the fixpoint.
-/
import Pumpkin.Model.PropagationSound
import Pumpkin.Model.Narrow
import Pumpkin.Model.CumulativeSound

namespace Pumpkin.Pg

theorem sign_mul (a b p : Int) (hp : p = a * b) :
    (0 < a ∧ 0 < b ∧ 0 < p) ∨ (0 < a ∧ b < 0 ∧ p < 0) ∨ (a < 0 ∧ 0 < b ∧ p < 0) ∨ (a < 0 ∧ b < 0 ∧ 0 < p) ∨
      ((a = 0 ∨ b = 0) ∧ p = 0) := by
  subst hp
  rcases Int.lt_trichotomy a 0 with ha | rfl | ha
  · rcases Int.lt_trichotomy b 0 with hb | rfl | hb
    · exact .inr (.inr (.inr (.inl ⟨ha, hb, Int.mul_pos_of_neg_of_neg ha hb⟩)))
    · exact .inr (.inr (.inr (.inr ⟨.inr rfl, Int.mul_zero a⟩)))
    · exact .inr (.inr (.inl ⟨ha, hb, Int.mul_neg_of_neg_of_pos ha hb⟩))
  · exact .inr (.inr (.inr (.inr ⟨.inl rfl, Int.zero_mul b⟩)))
  · rcases Int.lt_trichotomy b 0 with hb | rfl | hb
    · exact .inr (.inl ⟨ha, hb, Int.mul_neg_of_pos_of_neg ha hb⟩)
    · exact .inr (.inr (.inr (.inr ⟨.inr rfl, Int.mul_zero a⟩)))
    · exact .inl ⟨ha, hb, Int.mul_pos ha hb⟩

theorem ceil_le {n m q r a : Int} (e : m * q + r = n) (r0 : 0 ≤ r) (rm : r < m) (h : n ≤ a * m) :
    q ≤ a ∧ (0 < r → q + 1 ≤ a) := by
  subst e
  rw [Int.mul_comm a m] at h
  have hm : 0 < m := Int.lt_of_le_of_lt r0 rm
  -- `m * q ≤ m * q + r ≤ m * a`, strict when `0 < r`; cancel `m`
  exact ⟨Int.le_of_mul_le_mul_left (Int.le_trans (Int.le_add_of_nonneg_right r0) h) hm,
    fun hr => Int.lt_of_mul_lt_mul_left (Int.lt_of_lt_of_le (Int.lt_add_of_pos_right _ hr) h) (Int.le_of_lt hm)⟩

theorem divCeilPos_le {n m a : Int} (hm : 0 < m) (hn : 0 < n) (h : n ≤ a * m) : divCeilPos n m ≤ a := by
  have c := ceil_le (Int.mul_tdiv_add_tmod n m) (Int.tmod_nonneg m (Int.le_of_lt hn)) (Int.tmod_lt_of_pos n hm) h
  unfold divCeilPos
  split
  · exact c.2 ‹_›
  · split <;> omega

-- core's `Int.le_tdiv_of_mul_le`, which does without `hn` and is what the rules below call
theorem le_tdiv_of_mul_le {n m a : Int} (hm : 0 < m) (hn : 0 ≤ n) (h : a * m ≤ n) : a ≤ n.tdiv m :=
  Int.le_tdiv_of_mul_le hm h

theorem and3_of_decide {p q r : Prop} [Decidable p] [Decidable q] [Decidable r]
    (h : (decide p && decide q && decide r) = true) : p ∧ q ∧ r := by
  simpa [and_assoc] using h

/-! Each statement takes the guard of its rule as the model writes it. -/

theorem prod_sign {A B C aMin aMax bMin bMax : Int} (hC : A * B = C) (a1 : aMin ≤ A) (a2 : A ≤ aMax)
    (b1 : bMin ≤ B) (b2 : B ≤ bMax) :
    (0 ≤ aMin ∧ 0 ≤ bMin → 0 ≤ C) ∧ (aMax ≤ 0 ∧ bMax ≤ 0 → 0 ≤ C) ∧
    (aMax ≤ 0 ∧ 0 ≤ bMin → C ≤ 0) ∧ (0 ≤ aMin ∧ bMax ≤ 0 → C ≤ 0) :=
  hC ▸ ⟨fun g => Int.mul_nonneg (Int.le_trans g.1 a1) (Int.le_trans g.2 b1),
    fun g => Int.mul_nonneg_of_nonpos_of_nonpos (Int.le_trans a2 g.1) (Int.le_trans b2 g.2),
    fun g => Int.mul_nonpos_of_nonpos_of_nonneg (Int.le_trans a2 g.1) (Int.le_trans g.2 b1),
    fun g => Int.mul_nonpos_of_nonneg_of_nonpos (Int.le_trans g.1 a1) (Int.le_trans b2 g.2)⟩

theorem factor_sign {A B C aMin aMax cMin cMax : Int} (hC : A * B = C) (a1 : aMin ≤ A) (a2 : A ≤ aMax)
    (c1 : cMin ≤ C) (c2 : C ≤ cMax) :
    (1 ≤ aMin ∧ 1 ≤ cMin → 1 ≤ B) ∧ (aMax ≤ -1 ∧ cMax ≤ -1 → 1 ≤ B) ∧
    (aMax ≤ -1 ∧ 1 ≤ cMin → B ≤ -1) ∧ (1 ≤ aMin ∧ cMax ≤ -1 → B ≤ -1) := by
  subst hC
  have neg : ∀ {x m : Int}, x ≤ m → m ≤ -1 → x < 0 := fun h1 h2 => Int.lt_of_le_of_lt (Int.le_trans h1 h2) (by decide)
  -- `1 ≤ x` is `0 < x` by definition
  exact ⟨fun g => Int.pos_of_mul_pos_right (Int.le_trans g.2 c1) (Int.le_trans g.1 a1),
    fun g => Int.pos_of_mul_neg_right (neg c2 g.2) (neg a2 g.1),
    fun g => Int.le_sub_one_of_lt (Int.neg_of_mul_pos_right (Int.le_trans g.2 c1) (neg a2 g.1)),
    fun g => Int.le_sub_one_of_lt (Int.neg_of_mul_neg_right (neg c2 g.2) (Int.le_trans g.1 a1))⟩

theorem prod_bounds {A B aMin aMax bMin bMax : Int} (a1 : aMin ≤ A) (a2 : A ≤ aMax)
    (b1 : bMin ≤ B) (b2 : B ≤ bMax) (g : 0 ≤ aMin ∧ 0 ≤ bMin) : A * B ≤ aMax * bMax ∧ aMin * bMin ≤ A * B :=
  ⟨Int.mul_le_mul a2 b2 (Int.le_trans g.2 b1) (Int.le_trans (Int.le_trans g.1 a1) a2),
   Int.mul_le_mul a1 b1 g.2 (Int.le_trans g.1 a1)⟩

theorem factor_ge {A B C bMin bMax cMin : Int} (hC : A * B = C) (b1 : bMin ≤ B) (b2 : B ≤ bMax) (c1 : cMin ≤ C)
    (g : 0 ≤ bMin ∧ 1 ≤ bMax ∧ 1 ≤ cMin) : divCeilPos cMin bMax ≤ A := by
  -- `C ≥ 1` and `B ≥ 0` leave only the case `0 < A ∧ 0 < B` of `sign_mul`
  have hA : 0 ≤ A := by have := sign_mul A B C hC.symm; omega
  -- `cMin ≤ C = A * B ≤ A * bMax`
  exact divCeilPos_le g.2.1 g.2.2 (Int.le_trans c1 (hC ▸ Int.mul_le_mul_of_nonneg_left b2 hA))

theorem factor_le {A B C bMin cMin cMax : Int} (hC : A * B = C) (b1 : bMin ≤ B) (c2 : C ≤ cMax)
    (g : 1 ≤ bMin ∧ 0 ≤ cMin ∧ 1 ≤ cMax) : A ≤ cMax.tdiv bMin := by
  have hc : 0 ≤ cMax := Int.le_trans (by decide) g.2.2
  refine Int.le_tdiv_of_mul_le g.1 ?_
  rcases Int.le_total 0 A with hA | hA
  · exact Int.le_trans (Int.mul_le_mul_of_nonneg_left b1 hA) (hC ▸ c2)  -- `A * bMin ≤ A * B = C ≤ cMax`
  · exact Int.le_trans (Int.mul_nonpos_of_nonpos_of_nonneg hA (Int.le_trans (by decide) g.1)) hc  -- `A * bMin ≤ 0 ≤ cMax`

theorem timesSigns_ok {x : List Int} (a b c : View) (ha : a.var < x.length) (hb : b.var < x.length)
    (hc : c.var < x.length) (hsat : a.eval x * b.eval x = c.eval x) (d : Doms) (h : inDoms d x = true) :
    Ok x.length x (timesSigns a b c d) := by
  unfold timesSigns
  have a1 := lb_le h ha; have a2 := le_ub h ha
  have b1 := lb_le h hb; have b2 := le_ub h hb
  have c1 := lb_le h hc; have c2 := le_ub h hc
  obtain ⟨p1, p2, p3, p4⟩ := prod_sign hsat a1 a2 b1 b2
  obtain ⟨q1, q2, q3, q4⟩ := factor_sign hsat a1 a2 c1 c2
  obtain ⟨r1, r2, r3, r4⟩ := factor_sign (Int.mul_comm .. ▸ hsat) b1 b2 c1 c2
  refine Ok.bind (gLb_ok h hc fun g => p1 (and_of_decide g)) fun d1 h1 => ?_
  refine Ok.bind (gLb_ok h1 hb fun g => q1 (and_of_decide g)) fun d2 h2 => ?_
  refine Ok.bind (gLb_ok h2 ha fun g => r1 (and_of_decide g)) fun d3 h3 => ?_
  refine Ok.bind (gLb_ok h3 hc fun g => p2 (and_of_decide g)) fun d4 h4 => ?_
  refine Ok.bind (gLb_ok h4 hb fun g => q2 (and_of_decide g)) fun d5 h5 => ?_
  refine Ok.bind (gLb_ok h5 ha fun g => r2 (and_of_decide g)) fun d6 h6 => ?_
  refine Ok.bind (gUb_ok h6 hc fun g => p3 (and_of_decide g)) fun d7 h7 => ?_
  refine Ok.bind (gUb_ok h7 hc fun g => p4 (and_of_decide g)) fun d8 h8 => ?_
  refine Ok.bind (gUb_ok h8 hb fun g => q3 (and_of_decide g)) fun d9 h9 => ?_
  refine Ok.bind (gUb_ok h9 hb fun g => q4 (and_of_decide g)) fun d10 h10 => ?_
  refine Ok.bind (gUb_ok h10 ha fun g => r3 (and_of_decide g)) fun d11 h11 => ?_
  exact gUb_ok h11 ha fun g => r4 (and_of_decide g)

theorem timesPass_ok {x : List Int} (a b c : View) (ha : a.var < x.length) (hb : b.var < x.length)
    (hc : c.var < x.length) (hsat : a.eval x * b.eval x = c.eval x) (d : Doms) (h : inDoms d x = true) :
    Ok x.length x (timesPass a b c d) := by
  unfold timesPass
  refine Ok.bind (timesSigns_ok a b c ha hb hc hsat d h) fun d1 h1 => ?_
  have a1 := lb_le h1 ha; have a2 := le_ub h1 ha
  have b1 := lb_le h1 hb; have b2 := le_ub h1 hb
  have c1 := lb_le h1 hc; have c2 := le_ub h1 hc
  have hsat' : b.eval x * a.eval x = c.eval x := Int.mul_comm .. ▸ hsat
  refine Ok.bind (guard_ok h1 fun g => ?_) fun d2 h2 => ?_
  · obtain ⟨p1, p2⟩ := prod_bounds a1 a2 b1 b2 (and_of_decide g)
    rw [hsat] at p1 p2
    exact Ok.bind (setUb_ok h1 hc p1) fun d' h' => setLb_ok h' hc p2
  refine Ok.bind (gLb_ok h2 ha fun g => factor_ge hsat b1 b2 c1 (and3_of_decide g)) fun d3 h3 => ?_
  refine Ok.bind (gUb_ok h3 ha fun g => factor_le hsat b1 c2 (and3_of_decide g)) fun d4 h4 => ?_
  refine Ok.bind (gUb_ok h4 hb fun g => factor_le hsat' a1 c2 (and3_of_decide g)) fun d5 h5 => ?_
  refine Ok.bind (gLb_ok h5 hb fun g => factor_ge hsat' a1 a2 c1 (and3_of_decide g)) fun d6 h6 => ?_
  unfold timesCheck
  refine Ok.ite (fun hfix => ?_) fun _ => Ok.some h6
  simp only [Bool.and_eq_true, bne_iff_ne, ne_eq] at hfix
  obtain ⟨⟨⟨fa, fb⟩, fc⟩, hne⟩ := hfix
  rw [← eq_of_fixed h6 ha fa, ← eq_of_fixed h6 hb fb, ← eq_of_fixed h6 hc fc] at hne
  exact absurd hsat hne

theorem tdiv_facts (N D : Int) (hD : 1 ≤ D) :
    (0 ≤ N → D * N.tdiv D ≤ N ∧ N < D * N.tdiv D + D) ∧ (N ≤ 0 → D * N.tdiv D - D < N ∧ N ≤ D * N.tdiv D) := by
  refine ⟨fun h => ⟨Int.mul_tdiv_self_le h, Int.lt_mul_tdiv_self_add hD⟩, fun h => ?_⟩
  -- truncation is symmetric about 0
  have h1 := Int.mul_tdiv_self_le (x := -N) (k := D) (Int.neg_nonneg.2 h)
  have h2 := Int.lt_mul_tdiv_self_add (x := -N) hD
  rw [Int.neg_tdiv, Int.mul_neg] at h1 h2
  omega

structure DivT (N D R : Int) : Prop where
  dpos : 1 ≤ D
  eq : N.tdiv D = R

theorem DivT.neg {N D R : Int} (h : DivT N D R) : DivT (-N) D (-R) :=
  ⟨h.dpos, by rw [Int.neg_tdiv, h.eq]⟩

/-- the quotient brackets a non-negative numerator … -/
theorem DivT.f5 {N D R : Int} (h : DivT N D R) (hN : 0 ≤ N) : D * R ≤ N ∧ N < D * R + D :=
  h.eq ▸ (tdiv_facts N D h.dpos).1 hN

/-- … and a non-positive one -/
theorem DivT.f6 {N D R : Int} (h : DivT N D R) (hN : N ≤ 0) : D * R - D < N ∧ N ≤ D * R :=
  h.eq ▸ (tdiv_facts N D h.dpos).2 hN

theorem DivT.r_nonneg {N D R : Int} (h : DivT N D R) (hN : 0 ≤ N) : 0 ≤ R :=
  h.eq ▸ Int.tdiv_nonneg hN (Int.le_trans (by decide) h.dpos)

theorem DivT.r_nonpos {N D R : Int} (h : DivT N D R) (hN : N ≤ 0) : R ≤ 0 :=
  Int.neg_nonneg.1 (h.neg.r_nonneg (Int.neg_nonneg.2 hN))

theorem DivT.n_pos {N D R : Int} (h : DivT N D R) (hR : 1 ≤ R) : 1 ≤ N :=
  Int.not_le.1 fun hN => Int.not_lt.2 (h.r_nonpos hN) hR  -- `0 < N` is `1 ≤ N` by definition

theorem DivT.n_neg {N D R : Int} (h : DivT N D R) (hR : R ≤ -1) : N ≤ -1 :=
  Int.le_neg_of_le_neg (h.neg.n_pos (Int.le_neg_of_le_neg hR))

/-- the rules of `propagate_upper_bounds` -/
theorem divUpper_rules {N D R nMax rMax dMin dMax : Int} (T : DivT N D R) (n2 : N ≤ nMax) (r2 : R ≤ rMax)
    (d1 : dMin ≤ D) (d2 : D ≤ dMax) (dmin : 1 ≤ dMin) (g : 0 ≤ nMax ∧ 0 ≤ rMax) :
    R ≤ nMax.tdiv dMin ∧ N ≤ (rMax + 1) * dMax - 1 := by
  constructor
  · -- R * dMin ≤ R * D ≤ N for positive R
    refine Int.le_tdiv_of_mul_le dmin ?_
    rcases Int.lt_or_le 0 R with hp | hp
    · have f := (T.f5 (Int.le_trans (by decide) (T.n_pos hp))).1
      rw [Int.mul_comm D R] at f
      exact Int.le_trans (Int.mul_le_mul_of_nonneg_left d1 (Int.le_of_lt hp)) (Int.le_trans f n2)
    · exact Int.le_trans (Int.mul_nonpos_of_nonpos_of_nonneg hp (Int.le_trans (by decide) dmin)) g.1
  · -- N < D * R + D = (R + 1) * D ≤ (rMax + 1) * dMax for positive N
    refine Int.le_sub_one_of_lt ?_
    rcases Int.lt_or_le 0 N with hp | hp
    · have f : N < (R + 1) * D := by
        rw [Int.add_mul, Int.one_mul, Int.mul_comm]; exact (T.f5 (Int.le_of_lt hp)).2
      exact Int.lt_of_lt_of_le f
        (Int.mul_le_mul (Int.add_le_add_right r2 1) d2 (Int.le_trans (by decide) T.dpos) (Int.le_add_one g.2))
    · exact Int.lt_of_le_of_lt hp
        (Int.mul_pos (Int.lt_add_one_of_le g.2) (Int.lt_of_lt_of_le dmin (Int.le_trans d1 d2)))

/-- the rounding up as `propagate_positive_domains` spells it -/
theorem ceil2_le {dividend divisor D : Int} (h1 : 1 ≤ dividend) (h2 : 1 ≤ divisor) (h : dividend ≤ D * divisor) :
    dividend.tdiv divisor + (if dividend.tdiv divisor * divisor < dividend then 1 else 0) ≤ D := by
  have e := Int.mul_tdiv_add_tmod dividend divisor
  have c := ceil_le e (Int.tmod_nonneg divisor (Int.le_trans (by decide) h1)) (Int.tmod_lt_of_pos dividend h2) h
  rw [Int.mul_comm] at e
  split
  · exact c.2 (by omega)
  · omega

/-- the rules of `propagate_positive_domains` -/
theorem divPositive_rules {N D R nMin nMax rMin rMax dMin dMax : Int} (T : DivT N D R) (n1 : nMin ≤ N)
    (r1 : rMin ≤ R) (r2 : R ≤ rMax) (d1 : dMin ≤ D) (d2 : D ≤ dMax) (g : 0 ≤ nMin ∧ 0 ≤ rMin) :
    nMin.tdiv dMax ≤ R ∧ dMin * rMin ≤ N ∧ (0 < rMin → N ≤ nMax → D ≤ nMax.tdiv rMin) ∧
    (nMin + 1).tdiv (rMax + 1) + (if (nMin + 1).tdiv (rMax + 1) * (rMax + 1) < nMin + 1 then 1 else 0) ≤ D := by
  have hN := Int.le_trans g.1 n1
  obtain ⟨f1, f2⟩ := T.f5 hN
  have hR := T.r_nonneg hN
  have hD : 0 ≤ D := Int.le_trans (by decide) T.dpos
  have up : nMin < D * (R + 1) := Int.lt_of_le_of_lt n1 (by rw [Int.mul_add, Int.mul_one]; exact f2)
  refine ⟨?_, ?_, fun hr n2 => ?_, ?_⟩
  · -- `dMax * (nMin tdiv dMax) ≤ nMin < D * (R + 1) ≤ dMax * (R + 1)`; cancel `dMax`
    refine Int.le_of_lt_add_one (Int.lt_of_mul_lt_mul_left (a := dMax) ?_ (Int.le_trans hD d2))
    exact Int.lt_of_le_of_lt (Int.mul_tdiv_self_le g.1)
      (Int.lt_of_lt_of_le up (Int.mul_le_mul_of_nonneg_right d2 (Int.le_add_one hR)))
  · exact Int.le_trans (Int.mul_le_mul d1 r1 g.2 hD) f1  -- `dMin * rMin ≤ D * R ≤ N`
  · refine Int.le_tdiv_of_mul_le hr ?_
    exact Int.le_trans (Int.mul_le_mul_of_nonneg_left r1 hD) (Int.le_trans f1 n2)  -- `D * rMin ≤ D * R ≤ N ≤ nMax`
  · -- `nMin < D * (R + 1) ≤ D * (rMax + 1)`; `x < y` is `x + 1 ≤ y` by definition
    refine ceil2_le (Int.le_add_of_nonneg_left g.1) (Int.le_add_of_nonneg_left (Int.le_trans g.2 (Int.le_trans r1 r2))) ?_
    exact Int.lt_of_lt_of_le up (Int.mul_le_mul_of_nonneg_left (Int.add_le_add_right r2 1) hD)

theorem divSigns_ok {x : List Int} (n dn r : View) (hn : n.var < x.length) (hr : r.var < x.length)
    (T : DivT (n.eval x) (dn.eval x) (r.eval x)) (d : Doms) (h : inDoms d x = true) :
    Ok x.length x (divSigns n dn r d) := by
  unfold divSigns
  have n1 := lb_le h hn; have n2 := le_ub h hn
  have r1 := lb_le h hr; have r2 := le_ub h hr
  refine Ok.bind (gLb_ok h hr fun g => T.r_nonneg (Int.le_trans (and_of_decide g).1 n1)) fun d1 h1 => ?_
  refine Ok.bind (gLb_ok h1 hn fun g => T.n_pos (Int.le_trans (and_of_decide g).2 r1)) fun d2 h2 => ?_
  refine Ok.bind (gUb_ok h2 hr fun g => T.r_nonpos (Int.le_trans n2 (and_of_decide g).1)) fun d3 h3 => ?_
  exact gUb_ok h3 hn fun g => T.n_neg (Int.le_trans r2 (Int.le_sub_one_of_lt (and_of_decide g).2))  -- `≤ 0 - 1` is `≤ -1`

theorem divUpper_ok {x : List Int} (n dn r : View) (hn : n.var < x.length) (hd : dn.var < x.length)
    (hr : r.var < x.length) (T : DivT (n.eval x) (dn.eval x) (r.eval x)) (d : Doms) (h : inDoms d x = true)
    (dmin : 1 ≤ lb d dn) (g : 0 ≤ ub d n ∧ 0 ≤ ub d r) : Ok x.length x (divUpper n dn r d) := by
  unfold divUpper
  obtain ⟨u1, u2⟩ := divUpper_rules T (le_ub h hn) (le_ub h hr) (lb_le h hd) (le_ub h hd) dmin g
  exact Ok.bind (gUb_ok h hr fun _ => u1) fun d1 h1 => gUb_ok h1 hn fun _ => u2

theorem divPositive_ok {x : List Int} (n dn r : View) (hn : n.var < x.length) (hd : dn.var < x.length)
    (hr : r.var < x.length) (T : DivT (n.eval x) (dn.eval x) (r.eval x)) (d : Doms) (h : inDoms d x = true)
    (g : 0 ≤ lb d n ∧ 0 ≤ lb d r) : Ok x.length x (divPositive n dn r d) := by
  unfold divPositive
  obtain ⟨p1, p2, p3, p4⟩ :=
    divPositive_rules (nMax := ub d n) T (lb_le h hn) (lb_le h hr) (le_ub h hr) (lb_le h hd) (le_ub h hd) g
  refine Ok.bind (gLb_ok h hr fun _ => p1) fun d1 h1 => Ok.bind (gLb_ok h1 hn fun _ => p2) fun d2 h2 => ?_
  exact Ok.bind (gUb_ok h2 hd fun g => p3 (and_of_decide g).1 (le_ub h hn)) fun d3 h3 => gLb_ok h3 hd fun _ => p4

theorem neg_eval (w : View) (a : List Int) : (w.scaled (-1)).eval a = -(w.eval a) := by
  rw [View.scaled_eval, Int.neg_one_mul]

theorem vapp_scaled (w : View) (k z : Int) : vapp (w.scaled k) z = k * vapp w z := by
  simp only [vapp, View.scaled]
  rw [Int.mul_add, Int.mul_comm w.scale k, Int.mul_assoc, Int.mul_comm w.offset k]

theorem of_mem_vals_scaled {d : Doms} {w : View} {k v : Int} (h : v ∈ vals d (w.scaled k)) :
    ∃ v' ∈ vals d w, v = k * v' := by
  simp only [vals, List.mem_map] at h ⊢
  obtain ⟨z, hz, rfl⟩ := h
  exact ⟨_, ⟨z, hz, rfl⟩, vapp_scaled w k z⟩

theorem Ok.bind_nar {n : Nat} {a : List Int} {d : Doms} {r : Option Doms} {g : Doms → Option Doms}
    (hr : Ok n a r) (hn : Nar d r) (hg : ∀ d', inDoms d' a = true → Sub d' d → Ok n a (g d')) :
    Ok n a (r.bind g) := by
  obtain ⟨d', rfl, h1, _⟩ := hr
  exact hg d' h1 (hn d' rfl).1

/-- the phases of `divPass` once the signs are normalised: `num / den = r`, `den > 0`, `nnum = -num`, `nr = -r` -/
def divCore (num nnum den r : View) (d0 : Doms) : Option Doms := do
  let nr := r.scaled (-1)
  let d ← divSigns num den r d0
  let d ← guard (ub d num ≥ 0 && ub d r ≥ 0) (divUpper num den r) d
  let d ← guard (ub d nnum ≥ 0 && ub d nr ≥ 0) (divUpper nnum den nr) d
  let d ← guard (lb d num ≥ 0 && lb d r ≥ 0) (divPositive num den r) d
  guard (lb d nnum ≥ 0 && lb d nr ≥ 0) (divPositive nnum den nr) d

theorem divPass_eq (n dn r : View) (d0 : Doms) : divPass n dn r d0 =
    if contains d0 dn 0 then some d0
    else if lb d0 dn < 0 && ub d0 dn > 0 then some d0
    else if ub d0 dn < 0 then divCore (n.scaled (-1)) n (dn.scaled (-1)) r d0
    else divCore n (n.scaled (-1)) dn r d0 := by
  by_cases h : ub d0 dn < 0 <;> simp only [divPass, divCore, View.scaled_one, h, ite_true, ite_false]

/-- `divUpper` divides by the lower bound of `den`, still positive when it runs because the phases before it
only narrow the domains -/
theorem divCore_ok {x : List Int} (num nnum den r : View) (wn : num.var < x.length) (wnn : nnum.var < x.length)
    (wd : den.var < x.length) (wr : r.var < x.length)
    (T : DivT (num.eval x) (den.eval x) (r.eval x)) (en : nnum.eval x = -(num.eval x))
    (d : Doms) (h : inDoms d x = true) (pos : ∀ v ∈ vals d den, 1 ≤ v) :
    Ok x.length x (divCore num nnum den r d) := by
  have dmin : ∀ d', inDoms d' x = true → Sub d' d → 1 ≤ lb d' den :=
    fun d' h' s => pos _ (vals_sub s den (lb_mem h' wd))
  have T' : DivT (nnum.eval x) (den.eval x) ((r.scaled (-1)).eval x) := by rw [en, neg_eval]; exact T.neg
  refine Ok.bind_nar (divSigns_ok num den r wn wr T d h) (divSigns_nar _ _ _ _) fun d1 h1 s1 => ?_
  refine Ok.bind_nar (guard_ok h1 fun g => divUpper_ok num den r wn wd wr T d1 h1 (dmin d1 h1 s1) (and_of_decide g))
    (Nar.guard (divUpper_nar _ _ _ _)) fun d2 h2 s2 => ?_
  refine Ok.bind
    (guard_ok h2 fun g => divUpper_ok nnum den (r.scaled (-1)) wnn wd wr T' d2 h2 (dmin d2 h2 (s2.trans s1)) (and_of_decide g))
    fun d3 h3 => ?_
  refine Ok.bind (guard_ok h3 fun g => divPositive_ok num den r wn wd wr T d3 h3 (and_of_decide g)) fun d4 h4 => ?_
  exact guard_ok h4 fun g => divPositive_ok nnum den (r.scaled (-1)) wnn wd wr T' d4 h4 (and_of_decide g)

theorem divPass_ok {x : List Int} (n dn r : View) (hn : n.var < x.length) (hd : dn.var < x.length)
    (hr : r.var < x.length) (hsat : (n.eval x).tdiv (dn.eval x) = r.eval x)
    (d : Doms) (h : inDoms d x = true) : Ok x.length x (divPass n dn r d) := by
  rw [divPass_eq]
  refine Ok.ite (fun _ => Ok.some h) fun hnc => Ok.ite (fun _ => Ok.some h) fun hst => Ok.ite (fun hs => ?_) fun hs => ?_
  · -- all values of the denominator are negative: both sides are negated
    have pos : ∀ v ∈ vals d (dn.scaled (-1)), 1 ≤ v := fun v hv => by
      obtain ⟨v', hv', rfl⟩ := of_mem_vals_scaled hv
      rw [Int.neg_one_mul]
      exact Int.neg_pos_of_neg (Int.lt_of_le_of_lt (le_maxL hv') hs)
    refine divCore_ok (n.scaled (-1)) n (dn.scaled (-1)) r hn hn hd hr
      ⟨pos _ (eval_mem_vals h hd), ?_⟩ ?_ d h pos
    · rw [neg_eval, neg_eval, Int.neg_tdiv, Int.tdiv_neg, Int.neg_neg, hsat]
    · rw [neg_eval, Int.neg_neg]
  · -- all of them are positive: the upper bound is, so the lower bound is not negative
    simp only [Bool.and_eq_true, decide_eq_true_eq, not_and, Int.not_lt] at hst
    have no0 : ∀ v ∈ vals d dn, v ≠ 0 := fun v hv h0 => hnc (h0 ▸ List.contains_iff_mem.2 hv)
    have hub : 0 < ub d dn := Int.lt_iff_le_and_ne.2 ⟨Int.not_lt.1 hs, (no0 _ (ub_mem h hd)).symm⟩
    have hlb : 0 ≤ lb d dn := Int.not_lt.1 fun c => Int.not_lt.2 (hst c) hub
    have pos : ∀ v ∈ vals d dn, 1 ≤ v := fun v hv =>  -- as `0 < v`
      Int.lt_iff_le_and_ne.2 ⟨Int.le_trans hlb (minL_le hv), (no0 v hv).symm⟩
    exact divCore_ok n (n.scaled (-1)) dn r hn hn hd hr ⟨pos _ (eval_mem_vals h hd), hsat⟩
      (neg_eval n x) d h pos

theorem inconsistent_sound {a : List Int} (p : PropInst) (hw : p.Wf a.length) (d : Doms)
    (h : inDoms d a = true) (hi : p.inconsistent d = true) : p.cons.sat a = false := by
  cases p with
  | linLe ts c =>
    -- `c < sumLb d ts ≤ sumViews ts a`
    have h1 : c < sumLb d ts := of_decide_eq_true hi
    exact decide_eq_false (Int.not_le.2 (Int.lt_of_lt_of_le h1 (sumLb_le h ts hw)))
  | _ => cases hi

theorem pass_keeps {a : List Int} (p : PropInst) (hw : p.Wf a.length) (d : Doms)
    (h : inDoms d a = true) (hsat : p.cons.sat a = true) : Ok a.length a (p.pass d) := by
  -- `p.cons.sat a` reduces to a `decide`, or to a conjunction or disjunction of such
  induction p generalizing d with
  | linLe ts c => exact linLePass_ok ts c hw (of_decide_eq_true hsat) d h
  | linNe ts c => exact linNePass_ok ts c hw (of_decide_eq_true hsat) d h
  | abs s r => exact absPass_ok s r hw.1 hw.2 (of_decide_eq_true hsat) d h
  | max xs r =>
    obtain ⟨h1, h2⟩ := Bool.and_eq_true_iff.1 hsat
    obtain ⟨x, hx, e⟩ := List.any_eq_true.1 h2
    exact maxPass_ok xs r hw.1 hw.2 (fun x hx => of_decide_eq_true (List.all_eq_true.1 h1 x hx))
      ⟨x, hx, of_decide_eq_true e⟩ d h
  | times x y z => exact timesPass_ok x y z hw.1 hw.2.1 hw.2.2 (of_decide_eq_true hsat) d h
  | div x y z => exact divPass_ok x y z hw.1 hw.2.1 hw.2.2 (and_of_decide hsat).2 d h
  | element i xs r =>
    obtain ⟨h0, hm⟩ := Bool.and_eq_true_iff.1 hsat
    obtain ⟨k, hk⟩ := Int.eq_ofNat_of_zero_le (of_decide_eq_true h0)
    rw [hk, Int.toNat_natCast] at hm
    cases hx : xs[k]? with
    | none => rw [hx] at hm; cases hm
    | some x =>
      rw [hx] at hm
      exact elementPass_ok i xs r hw.1 hw.2.1 hw.2.2 x k hk hx (of_decide_eq_true hm) d h
  | clause ls => exact clausePass_ok ls hw (List.any_eq_true.1 hsat) d h
  | cumulative holes ts cap =>
    exact ttPass_ok holes ts cap hw ((CumSem.cumulative_sat_iff ts cap a fun k hk => (hw k hk).2).1 hsat) d h
      (inDoms_length h).symm
  | reified r p ih =>
    have hsat : r.holds a = false ∨ p.cons.sat a = true :=
      (Bool.or_eq_true_iff.1 hsat).imp_left (Bool.not_eq_true' _).mp
    refine Ok.bind (Ok.ite (fun hc => ?_) fun _ => Ok.some h) fun d' h' => Ok.ite (fun ht => ?_) fun _ => Ok.some h'
    · -- `propagate_reification`: the inner constraint is inconsistent, so `r` is false under `a`
      have hr : r.holds a = false :=
        hsat.resolve_right fun h1 => by rw [inconsistent_sound p hw.2 d h (Bool.and_eq_true_iff.1 hc).2] at h1; cases h1
      refine postAtom_ok h ((Atom.neg_var r).symm ▸ hw.1) ?_
      rw [Atom.neg_holds, hr]; rfl
    · rcases hsat with h1 | h1
      · rw [AtomRup.atomTrue_sound h' (inDoms_length h' ▸ hw.1) ht] at h1; cases h1
      · exact ih hw.2 d' h' h1

theorem pass_ok {n : Nat} {a : List Int} (p : PropInst) (hw : p.Wf n) (d : Doms)
    (h : inDoms d a = true) (hl : d.length = n) (hsat : p.cons.sat a = true) : Ok n a (p.pass d) := by
  obtain rfl := length_eq h hl
  exact pass_keeps p hw d h hsat

theorem round_ok {n : Nat} {a : List Int} (ps : List PropInst) (hw : ∀ p ∈ ps, p.Wf n)
    (hsat : ∀ p ∈ ps, p.cons.sat a = true) (d : Doms) (h : inDoms d a = true) (hl : d.length = n) :
    Ok n a (round ps d) := by
  obtain rfl := length_eq h hl
  exact Ok.loop (fun _ => rfl) (fun _ _ _ => rfl) ps (fun p hp d h => pass_keeps p (hw p hp) d h (hsat p hp)) d h

theorem iterate_ok {n : Nat} {a : List Int} (ps : List PropInst) (hw : ∀ p ∈ ps, p.Wf n)
    (hsat : ∀ p ∈ ps, p.cons.sat a = true) (fuel : Nat) (d : Doms) (h : inDoms d a = true) (hl : d.length = n) :
    Ok n a (iterate ps fuel d) := by
  obtain rfl := length_eq h hl
  clear hl
  induction fuel generalizing d with
  | zero => exact Ok.some h
  | succ k ih =>
    obtain ⟨d', e, h', _⟩ := round_ok ps hw hsat d h (inDoms_length h).symm
    simp only [iterate, e]
    exact Ok.ite (fun _ => Ok.some h') fun _ => ih d' h'

theorem fixpoint_ok {n : Nat} {a : List Int} (ps : List PropInst) (hw : ∀ p ∈ ps, p.Wf n)
    (hsat : ∀ p ∈ ps, p.cons.sat a = true) (d : Doms) (h : inDoms d a = true) (hl : d.length = n) :
    Ok n a (fixpoint ps d) := by
  unfold fixpoint
  rw [show d.any List.isEmpty = false from AtomRup.not_hasEmpty_of_inDoms h]
  exact iterate_ok ps hw hsat _ d h hl

theorem fixpoint_keeps_solutions {n : Nat} (ps : List PropInst) (hw : ∀ p ∈ ps, p.Wf n) (d d' : Doms)
    (hl : d.length = n) (hf : fixpoint ps d = some d') (a : List Int) (h : inDoms d a = true)
    (hsat : ∀ p ∈ ps, p.cons.sat a = true) : inDoms d' a = true := by
  obtain ⟨d'', e, h', _⟩ := fixpoint_ok ps hw hsat d h hl
  rw [hf] at e; cases e; exact h'

theorem fixpoint_conflict_sound {n : Nat} (ps : List PropInst) (hw : ∀ p ∈ ps, p.Wf n) (d : Doms)
    (hl : d.length = n) (hf : fixpoint ps d = none) (a : List Int) (h : inDoms d a = true) :
    ¬ ∀ p ∈ ps, p.cons.sat a = true := by
  intro hsat
  obtain ⟨d'', e, _, _⟩ := fixpoint_ok ps hw hsat d h hl
  rw [hf] at e; cases e

end Pumpkin.Pg
