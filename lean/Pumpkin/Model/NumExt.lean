/-
Models of `math/num_ext.rs` (`div_ceil`, `div_floor` on `i32`, written with truncating `/` and `%`)
and of the predicate translation of `engine/variables/affine_view.rs` (`lower_bound_predicate`,
`upper_bound_predicate`, with the rounding of `invert` written out in them; `map` is `View.eval`).

Unbounded `Int` here; `Model/Wrap.lean` has `map` in 32 bits (not `div_ceil` / `div_floor`).
-/
import Pumpkin.Spec.Basic

namespace Pumpkin

/-- `<i32 as NumExt>::div_ceil`: `d = self / other; r = self % other;
if (r > 0 && other > 0) || (r < 0 && other < 0) { d + 1 } else { d }` -/
def divCeil (a b : Int) : Int :=
  if (a.tmod b > 0 ∧ b > 0) ∨ (a.tmod b < 0 ∧ b < 0) then a.tdiv b + 1 else a.tdiv b

/-- `<i32 as NumExt>::div_floor` -/
def divFloor (a b : Int) : Int :=
  if (a.tmod b > 0 ∧ b < 0) ∨ (a.tmod b < 0 ∧ b > 0) then a.tdiv b - 1 else a.tdiv b

theorem divFloor_pos (a : Int) {b : Int} (hb : 0 < b) :
    b * divFloor a b ≤ a ∧ a < b * divFloor a b + b := by
  have hm := Int.mul_tdiv_add_tmod a b
  have h1 := Int.lt_tmod_of_pos a hb  -- `-b < a.tmod b`
  have h2 := Int.tmod_lt_of_pos a hb
  unfold divFloor
  split
  · rw [Int.mul_sub, Int.mul_one]; omega
  · omega

theorem tdiv_tmod_neg_divisor (a b : Int) :
    a.tdiv (-b) = -(a.tdiv b) ∧ a.tmod (-b) = a.tmod b := ⟨Int.tdiv_neg a b, Int.tmod_neg a b⟩

/-! The ceiling is the floor reflected, `⌈a/b⌉ = -⌊-a/b⌋`, and a negative divisor swaps the two:
what is proved about `divFloor` with a positive divisor carries over to the other three cases. -/

theorem divCeil_eq_neg_divFloor_neg (a b : Int) : divCeil a b = -(divFloor (-a) b) := by
  unfold divFloor divCeil
  rw [Int.neg_tdiv, Int.neg_tmod]
  -- once the signs are pushed through, both sides test the same condition
  simp only [gt_iff_lt, Int.neg_pos, Int.neg_neg_iff_pos, or_comm]
  split <;> omega

theorem divFloor_neg_divisor (a b : Int) : divFloor a (-b) = -(divCeil a b) := by
  unfold divFloor divCeil
  rw [Int.tdiv_neg, Int.tmod_neg]
  simp only [gt_iff_lt, Int.neg_pos, Int.neg_neg_iff_pos]
  split <;> omega

theorem divCeil_neg_divisor (a b : Int) : divCeil a (-b) = -(divFloor a b) := by
  rw [divCeil_eq_neg_divFloor_neg, divFloor_neg_divisor, divCeil_eq_neg_divFloor_neg, Int.neg_neg, Int.neg_neg]

theorem divCeil_pos (a : Int) {b : Int} (hb : 0 < b) :
    b * divCeil a b - b < a ∧ a ≤ b * divCeil a b := by
  have := divFloor_pos (-a) hb
  rw [divCeil_eq_neg_divFloor_neg, Int.mul_neg]
  omega

theorem scale_pos_le (s x a : Int) (hs : 0 < s) : s * x ≤ a ↔ x ≤ divFloor a s := by
  obtain ⟨h1, h2⟩ := divFloor_pos a hs
  have h2 : a < s * (divFloor a s + 1) := by rwa [Int.mul_add, Int.mul_one]
  -- `s * x ≤ a < s * (⌊a/s⌋ + 1)`, so `x < ⌊a/s⌋ + 1`; and `s * x ≤ s * ⌊a/s⌋ ≤ a`
  exact ⟨fun h => Int.lt_add_one_iff.1 (Int.lt_of_mul_lt_mul_left (Int.lt_of_le_of_lt h h2) (Int.le_of_lt hs)),
    fun h => Int.le_trans (Int.mul_le_mul_of_nonneg_left h (Int.le_of_lt hs)) h1⟩

theorem scale_pos_ge (s x a : Int) (hs : 0 < s) : a ≤ s * x ↔ divCeil a s ≤ x := by
  have := scale_pos_le s (-x) (-a) hs
  rwa [Int.mul_neg, Int.neg_le_neg_iff, Int.neg_le_iff, ← divCeil_eq_neg_divFloor_neg] at this

theorem scale_neg_ge (s x a : Int) (hs : s < 0) : a ≤ s * x ↔ x ≤ divFloor a s := by
  have := scale_pos_ge (-s) (-x) a (Int.neg_pos_of_neg hs)
  rwa [Int.neg_mul_neg, divCeil_neg_divisor, Int.neg_le_neg_iff] at this

theorem scale_neg_le (s x a : Int) (hs : s < 0) : s * x ≤ a ↔ divCeil a s ≤ x := by
  have := scale_pos_le (-s) (-x) a (Int.neg_pos_of_neg hs)
  rwa [Int.neg_mul_neg, divFloor_neg_divisor, Int.neg_le_neg_iff] at this

/-- `AffineView::lower_bound_predicate(v)` -/
def View.gePred (w : View) (v : Int) : Atom :=
  if 0 ≤ w.scale then Atom.ge w.var (divCeil (v - w.offset) w.scale)
  else Atom.le w.var (divFloor (v - w.offset) w.scale)

/-- `AffineView::upper_bound_predicate(v)` -/
def View.lePred (w : View) (v : Int) : Atom :=
  if 0 ≤ w.scale then Atom.le w.var (divFloor (v - w.offset) w.scale)
  else Atom.ge w.var (divCeil (v - w.offset) w.scale)

theorem View.gePred_sem (w : View) (v : Int) (a : List Int) (hs : w.scale ≠ 0) :
    (w.gePred v).holds a = true ↔ v ≤ w.eval a := by
  unfold View.gePred View.eval
  by_cases hp : 0 ≤ w.scale
  · rw [if_pos hp, Atom.holds, Atom.holdsVal, decide_eq_true_eq]
    -- `⌈(v-off)/s⌉ ≤ x ↔ v - off ≤ s * x ↔ v ≤ s * x + off`
    exact (scale_pos_ge _ _ _ (Int.lt_iff_le_and_ne.2 ⟨hp, hs.symm⟩)).symm.trans Int.sub_right_le_iff_le_add
  · rw [if_neg hp, Atom.holds, Atom.holdsVal, decide_eq_true_eq]
    exact (scale_neg_ge _ _ _ (Int.not_le.1 hp)).symm.trans Int.sub_right_le_iff_le_add

theorem View.lePred_sem (w : View) (v : Int) (a : List Int) (hs : w.scale ≠ 0) :
    (w.lePred v).holds a = true ↔ w.eval a ≤ v := by
  unfold View.lePred View.eval
  by_cases hp : 0 ≤ w.scale
  · rw [if_pos hp, Atom.holds, Atom.holdsVal, decide_eq_true_eq]
    exact (scale_pos_le _ _ _ (Int.lt_iff_le_and_ne.2 ⟨hp, hs.symm⟩)).symm.trans Int.add_le_iff_le_sub.symm
  · rw [if_neg hp, Atom.holds, Atom.holdsVal, decide_eq_true_eq]
    exact (scale_neg_le _ _ _ (Int.not_le.1 hp)).symm.trans Int.add_le_iff_le_sub.symm

end Pumpkin
