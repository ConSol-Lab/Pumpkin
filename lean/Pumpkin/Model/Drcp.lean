/-
Model of the DRCP text format as written by `drcp-format/src/writer/mod.rs` and read by
`drcp-format/src/reader/mod.rs`, at token level.

A line is a sequence of tokens separated by single blanks. Numbers are *untyped* tokens: whether
a number is a literal, the `0` separator, a hint or a step id is decided by the grammar, exactly as
in the nom parser (`many0(preceded(" ", literal))` stops at the first token that is not a non-zero
integer). `c:<n>` and `l:<label>` are their own token kinds. Lexing (characters ↔ tokens) is glue
code in the driver and is tied to the real writer/reader by the correspondence check.
-/

namespace Pumpkin.Drcp

inductive Tok where
  | kw (s : String)        -- i, n, d, c, UNSAT
  | num (z : Int)
  | pnum (z : Int)         -- a number spelled with an explicit `+` (accepted by nom's signed parsers only)
  | tag (n : Nat)          -- c:<n>
  | label (s : String)     -- l:<label>
deriving DecidableEq, Repr, Inhabited

inductive Step where
  | inference (id : Nat) (premises : List Int) (propagated : Option Int) (tag : Option Nat)
      (label : Option String)
  | nogood (id : Nat) (lits : List Int) (hints : Option (List Nat))
  | deletion (id : Nat)
  | unsat
  | optimal (lit : Int)
deriving DecidableEq, Repr, Inhabited

/-- a literal code: `NonZero<i32>` -/
def isLit (z : Int) : Prop := z ≠ 0 ∧ -2147483648 ≤ z ∧ z ≤ 2147483647
/-- a step id: `NonZero<u64>` -/
def isId (z : Int) : Prop := 0 < z ∧ z ≤ 18446744073709551615
/-- a constraint tag: `NonZero<u32>` -/
def isTag (n : Nat) : Prop := n ≠ 0 ∧ n ≤ 4294967295

instance (z : Int) : Decidable (isLit z) := by unfold isLit; infer_instance
instance (z : Int) : Decidable (isId z) := by unfold isId; infer_instance
instance (n : Nat) : Decidable (isTag n) := by unfold isTag; infer_instance

def optToks {α : Type} (f : α → List Tok) : Option α → List Tok
  | none => []
  | some a => f a

/-- `WritableProofStep::write_string` -/
def render : Step → List Tok
  | .inference id prem prop tag label =>
      [Tok.kw "i", Tok.num id] ++ prem.map Tok.num ++ optToks (fun p => [Tok.num 0, Tok.num p]) prop
        ++ optToks (fun t => [Tok.tag t]) tag ++ optToks (fun l => [Tok.label l]) label
  | .nogood id lits hints =>
      [Tok.kw "n", Tok.num id] ++ lits.map Tok.num
        ++ optToks (fun hs => Tok.num 0 :: hs.map (fun (h : Nat) => Tok.num (h : Int))) hints
  | .deletion id => [Tok.kw "d", Tok.num id]
  | .unsat => [Tok.kw "c", Tok.kw "UNSAT"]
  | .optimal l => [Tok.kw "c", Tok.num l]

/-- `many0(preceded(tag(" "), literal))`: the longest prefix of non-zero numbers -/
def takeLits : List Tok → List Int × List Tok
  | Tok.num z :: rest =>
    if isLit z then
      let (ls, r) := takeLits rest
      (z :: ls, r)
    else ([], Tok.num z :: rest)
  | Tok.pnum z :: rest =>
    if isLit z then
      let (ls, r) := takeLits rest
      (z :: ls, r)
    else ([], Tok.pnum z :: rest)
  | ts => ([], ts)

/-- `many0(preceded(tag(" "), step_id))`: the longest prefix of positive numbers -/
def takeIds : List Tok → List Nat × List Tok
  | Tok.num z :: rest =>
    if isId z then
      let (ls, r) := takeIds rest
      (z.toNat :: ls, r)
    else ([], Tok.num z :: rest)
  | ts => ([], ts)

def parseTail (id : Nat) (prem : List Int) (prop : Option Int) : List Tok → Option Step
  | [] => some (.inference id prem prop none none)
  | [Tok.tag t] => if isTag t then some (.inference id prem prop (some t) none) else none
  | [Tok.label l] => some (.inference id prem prop none (some l))
  | [Tok.tag t, Tok.label l] => if isTag t then some (.inference id prem prop (some t) (some l)) else none
  | _ => none

/-- `proof_step` = `all_consuming(alt((inference_step, nogood_step, deletion_step, conclusion_step)))` -/
def parse : List Tok → Option Step
  | Tok.kw "i" :: Tok.num id :: rest =>
    if isId id then
      let (prem, r) := takeLits rest
      match r with
      | Tok.num 0 :: Tok.num p :: r' => if isLit p then parseTail id.toNat prem (some p) r' else none
      | Tok.num 0 :: Tok.pnum p :: r' => if isLit p then parseTail id.toNat prem (some p) r' else none
      | r' => parseTail id.toNat prem none r'
    else none
  | Tok.kw "n" :: Tok.num id :: rest =>
    if isId id then
      let (lits, r) := takeLits rest
      match r with
      | [] => some (.nogood id.toNat lits none)
      | Tok.num 0 :: r' =>
        let (hs, r'') := takeIds r'
        if r'' = [] then some (.nogood id.toNat lits (some hs)) else none
      | _ => none
    else none
  | [Tok.kw "d", Tok.num id] => if isId id then some (.deletion id.toNat) else none
  | [Tok.kw "c", Tok.kw "UNSAT"] => some .unsat
  | [Tok.kw "c", Tok.num l] => if isLit l then some (.optimal l) else none
  | [Tok.kw "c", Tok.pnum l] => if isLit l then some (.optimal l) else none
  | _ => none

/-- well-formedness: what the Rust types guarantee (`NonZero` ids, literals, hints, tags) -/
def Step.WF : Step → Prop
  | .inference id prem prop tag _ =>
      isId id ∧ (∀ p ∈ prem, isLit p) ∧ (∀ p, prop = some p → isLit p) ∧ (∀ t, tag = some t → isTag t)
  | .nogood id lits hints =>
      isId id ∧ (∀ l ∈ lits, isLit l) ∧ (∀ hs, hints = some hs → ∀ h ∈ hs, isId (h : Int))
  | .deletion id => isId id
  | .unsat => True
  | .optimal l => isLit l

/-- `ts` does not begin with a literal: `takeLits` stops in front of it -/
def NoLit : List Tok → Prop
  | Tok.num z :: _ => z = 0
  | Tok.pnum _ :: _ => False
  | _ => True

theorem takeLits_map (ls : List Int) (rest : List Tok) (h : ∀ l ∈ ls, isLit l) (hr : NoLit rest) :
    takeLits (ls.map Tok.num ++ rest) = (ls, rest) := by
  induction ls with
  | nil =>
    cases rest with
    | nil => rfl
    | cons t r =>
      cases t with
      | num z => cases (show z = 0 from hr); rfl
      | pnum z => exact (show False from hr).elim
      | _ => rfl
  | cons l ls ih =>
    rw [List.forall_mem_cons] at h
    simp only [List.map_cons, List.cons_append, takeLits, h.1, if_true]
    rw [ih h.2]

theorem takeIds_map (hs : List Nat) (h : ∀ x ∈ hs, isId (x : Int)) :
    takeIds (hs.map (fun (x : Nat) => Tok.num (x : Int))) = (hs, []) := by
  induction hs with
  | nil => rfl
  | cons x xs ih =>
    rw [List.forall_mem_cons] at h
    simp only [List.map_cons, takeIds, h.1, if_true]
    rw [ih h.2, Int.toNat_natCast]

theorem parseTail_render (id : Nat) (prem : List Int) (prop : Option Int) (tag : Option Nat)
    (label : Option String) (ht : ∀ t, tag = some t → isTag t) :
    parseTail id prem prop (optToks (fun t => [Tok.tag t]) tag ++ optToks (fun l => [Tok.label l]) label) =
      some (.inference id prem prop tag label) := by
  cases tag <;> cases label <;> simp [optToks, parseTail, ht]

theorem parse_render (s : Step) (h : s.WF) : parse (render s) = some s := by
  cases s with
  | deletion id => simp [render, parse, show isId id from h]
  | unsat => simp [render, parse]
  | optimal l => simp [render, parse, show isLit l from h]
  | nogood id lits hints =>
    obtain ⟨hid, hl, hh⟩ := h
    cases hints with
    | none =>
      have := takeLits_map lits [] hl trivial  -- `NoLit []` is `True`
      rw [List.append_nil] at this
      simp [render, optToks, parse, hid, this]
    | some hs =>
      simp [render, optToks, parse, hid, takeLits_map lits _ hl (show NoLit (Tok.num 0 :: _) from rfl),
        takeIds_map hs (hh hs rfl)]
  | inference id prem prop tag label =>
    obtain ⟨hid, hp, hprop, htag⟩ := h
    have hstop : NoLit (optToks (fun p => [Tok.num 0, Tok.num p]) prop ++
        (optToks (fun t => [Tok.tag t]) tag ++ optToks (fun l => [Tok.label l]) label)) := by
      cases prop
      · cases tag <;> cases label <;> trivial
      · rfl
    simp only [render, List.cons_append, List.nil_append, List.append_assoc, parse, hid, if_true,
      takeLits_map prem _ hp hstop]
    have htail := parseTail_render id prem prop tag label htag
    cases prop with
    | some p => simpa [optToks, hprop p rfl] using htail
    | none => cases tag <;> cases label <;> simpa [optToks] using htail

theorem parse_render_seq (ss : List Step) (h : ∀ s ∈ ss, s.WF) :
    (ss.map render).mapM parse = some ss := by
  induction ss with
  | nil => rfl
  | cons s ss ih =>
    rw [List.forall_mem_cons] at h
    simp only [List.map_cons, List.mapM_cons, parse_render s h.1, ih h.2]
    rfl

/-! ### atomic constraints (`atomic.rs`) -/

inductive Cmp | ge | le | eq | ne deriving DecidableEq, Repr

structure IntAtomic where
  name : String
  cmp : Cmp
  value : Int
deriving DecidableEq, Repr

/-- `impl Not for IntAtomicConstraint` over unbounded integers -/
def IntAtomic.not (a : IntAtomic) : IntAtomic :=
  match a.cmp with
  | .ge => { a with cmp := .le, value := a.value - 1 }
  | .le => { a with cmp := .ge, value := a.value + 1 }
  | .eq => { a with cmp := .ne }
  | .ne => { a with cmp := .eq }

theorem IntAtomic.not_not (a : IntAtomic) : a.not.not = a := by
  obtain ⟨n, c, v⟩ := a
  cases c <;> simp [IntAtomic.not] <;> omega

def wrap64 (z : Int) : Int := (z + 9223372036854775808) % 18446744073709551616 - 9223372036854775808

/-- the same with 64-bit wrap-around (what a build without overflow checks computes) -/
def IntAtomic.not64 (a : IntAtomic) : IntAtomic :=
  match a.cmp with
  | .ge => { a with cmp := .le, value := wrap64 (a.value - 1) }
  | .le => { a with cmp := .ge, value := wrap64 (a.value + 1) }
  | .eq => { a with cmp := .ne }
  | .ne => { a with cmp := .eq }

/-- also where the first step wraps -/
theorem wrap64_pred_succ {v : Int} (h : -9223372036854775808 ≤ v ∧ v ≤ 9223372036854775807) :
    wrap64 (wrap64 (v - 1) + 1) = v ∧ wrap64 (wrap64 (v + 1) - 1) = v := by
  unfold wrap64; omega

theorem IntAtomic.not64_not64 (a : IntAtomic)
    (h : -9223372036854775808 ≤ a.value ∧ a.value ≤ 9223372036854775807) : a.not64.not64 = a := by
  obtain ⟨n, c, v⟩ := a
  cases c
  · simp only [IntAtomic.not64, (wrap64_pred_succ h).1]
  · simp only [IntAtomic.not64, (wrap64_pred_succ h).2]
  · rfl
  · rfl

structure BoolAtomic where
  name : String
  value : Bool
deriving DecidableEq, Repr

def BoolAtomic.not (a : BoolAtomic) : BoolAtomic := { a with value := !a.value }
theorem BoolAtomic.not_not (a : BoolAtomic) : a.not.not = a := by
  obtain ⟨n, v⟩ := a; simp [BoolAtomic.not]

end Pumpkin.Drcp
