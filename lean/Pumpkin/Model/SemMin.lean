/-
Model of the semantic minimiser
(`engine/conflict_analysis/minimisers/semantic_minimiser.rs`: `minimise`, `apply_predicates`,
`SimpleIntegerDomain::{tighten_lower_bound, tighten_upper_bound, add_hole, assign}` and the methods named
below).

The minimiser rewrites the conjunction of the predicates of a nogood, variable by variable, into a
description of the resulting domain relative to the variable's *original* domain.
-/
import Pumpkin.Spec.Basic

namespace Pumpkin.SemMin

structure SD where
  lb : Int
  ub : Int
  holes : List Int
  inc : Bool := false
deriving Repr

/-- the values the simple domain stands for -/
def SD.Sem (d : SD) (z : Int) : Prop := d.inc = false ∧ d.lb ≤ z ∧ z ≤ d.ub ∧ z ∉ d.holes

/-- `apply_predicates`, one predicate (all predicates here are over the domain's variable) -/
def applyAtom (d : SD) : Atom → SD
  | .ge _ v => { d with lb := max d.lb v }
  | .le _ v => { d with ub := min d.ub v }
  | .ne _ v => if d.lb ≤ v ∧ v ≤ d.ub ∧ v ∉ d.holes then { d with holes := v :: d.holes } else d   -- a `HashSet` insert
  | .eq _ v => if d.lb > d.ub ∨ d.lb > v ∨ d.ub < v then { d with inc := true } else { d with lb := v, ub := v }

/-- `propagate_holes_on_lower_bound` (the `while` loop with fuel) -/
def raiseLb : Nat → SD → SD
  | 0, d => d
  | f + 1, d => if d.holes.contains d.lb && decide (d.lb ≤ d.ub) then raiseLb f { d with lb := d.lb + 1 } else d

/-- `propagate_holes_on_upper_bound` -/
def lowerUb : Nat → SD → SD
  | 0, d => d
  | f + 1, d => if d.holes.contains d.ub && decide (d.lb ≤ d.ub) then lowerUb f { d with ub := d.ub - 1 } else d

/-- `remove_redundant_holes` -/
def dropHoles (d : SD) : SD :=
  if d.inc then d else { d with holes := d.holes.filter (fun h => decide (d.lb < h) && decide (h < d.ub)) }

/-- `update_consistency` -/
def updInc (d : SD) : SD := if d.inc then d else { d with inc := decide (d.lb > d.ub) }

/-- more rounds than either `while` can make (`lt_fuelOf`) -/
def fuelOf (d : SD) : Nat := (d.ub - d.lb + 1).toNat + 1

/-- the four calls which close `apply_predicates`, and which `grow` makes on a new original domain -/
def finish (d : SD) : SD :=
  let d1 := raiseLb (fuelOf d) d
  let d2 := lowerUb (fuelOf d1) d1
  updInc (dropHoles d2)

/-- `add_domain_description_to_vector` -/
def describe (x : Nat) (d orig : SD) (merge : Bool) : List Atom :=
  if merge && decide (d.lb = d.ub) && decide (d.lb ≠ orig.lb) && decide (d.ub ≠ orig.ub) then [.eq x d.lb]
  else
    (if d.lb ≠ orig.lb then [Atom.ge x d.lb] else []) ++
    (if d.ub ≠ orig.ub then [Atom.le x d.ub] else []) ++
    (d.holes.filter (fun h => decide (d.lb < h) && decide (h < d.ub) && !orig.holes.contains h)).map (Atom.ne x)

/-- the minimiser on the predicates of one variable; `none` = inconsistent (the code then answers
with the trivially false predicate) -/
def minimiseVar (x : Nat) (orig : SD) (preds : List Atom) (merge : Bool) : Option (List Atom) :=
  let d := finish (preds.foldl applyAtom orig)
  if d.inc then none else some (describe x d orig merge)

theorem applyAtom_sem (d : SD) (p : Atom) (z : Int) : (applyAtom d p).Sem z ↔ d.Sem z ∧ p.holdsVal z = true := by
  cases p with
  | ge x v =>
    simp only [applyAtom, SD.Sem, Atom.holdsVal, decide_eq_true_eq, Int.max_le]
    constructor
    · rintro ⟨a, ⟨b, c⟩, e, f⟩; exact ⟨⟨a, b, e, f⟩, c⟩
    · rintro ⟨⟨a, b, e, f⟩, c⟩; exact ⟨a, ⟨b, c⟩, e, f⟩
  | le x v =>
    simp only [applyAtom, SD.Sem, Atom.holdsVal, decide_eq_true_eq, Int.le_min]
    constructor
    · rintro ⟨a, b, ⟨c, e⟩, f⟩; exact ⟨⟨a, b, c, f⟩, e⟩
    · rintro ⟨⟨a, b, c, f⟩, e⟩; exact ⟨a, b, ⟨c, e⟩, f⟩
  | ne x v =>
    simp only [applyAtom, Atom.holdsVal, decide_eq_true_eq]
    split
    · simp only [SD.Sem, List.mem_cons, not_or]
      constructor
      · rintro ⟨a, b, c, e, f⟩; exact ⟨⟨a, b, c, f⟩, e⟩
      · rintro ⟨⟨a, b, c, f⟩, e⟩; exact ⟨a, b, c, e, f⟩
    · rename_i hb
      exact ⟨fun h => ⟨h, fun e => hb (e ▸ h.2)⟩, And.left⟩
  | eq x v =>
    simp only [applyAtom, Atom.holdsVal, decide_eq_true_eq, SD.Sem]
    by_cases h : d.lb > d.ub ∨ d.lb > v ∨ d.ub < v
    · rw [if_pos h]
      constructor
      · rintro ⟨⟨⟩, -⟩  -- `inc` is now `true`: `true = false`
      · rintro ⟨⟨_, b, c, _⟩, e⟩; omega
    · rw [if_neg h]
      have hv : d.lb ≤ v ∧ v ≤ d.ub := by omega
      constructor
      · rintro ⟨a, b, c, f⟩
        obtain rfl : z = v := Int.le_antisymm c b
        exact ⟨⟨a, hv.1, hv.2, f⟩, rfl⟩
      · rintro ⟨⟨a, _, _, f⟩, rfl⟩; exact ⟨a, Int.le_refl _, Int.le_refl _, f⟩

theorem foldl_applyAtom_sem (preds : List Atom) (d : SD) (z : Int) :
    (preds.foldl applyAtom d).Sem z ↔ d.Sem z ∧ ∀ p ∈ preds, p.holdsVal z = true := by
  induction preds generalizing d with
  | nil => simp
  | cons p ps ih =>
    simp only [List.foldl_cons, ih, applyAtom_sem, List.mem_cons, forall_eq_or_imp, and_assoc]

/-- last conjunct: with enough fuel the loop has run to its end, where its guard fails -/
theorem raiseLb_eq (f : Nat) (d : SD) : ∃ l, raiseLb f d = { d with lb := l } ∧ d.lb ≤ l ∧
    (∀ z, d.lb ≤ z → z < l → z ∈ d.holes) ∧
    (d.ub - d.lb + 1 < f → l ≤ d.ub → l ∉ d.holes) := by
  induction f generalizing d with
  | zero => exact ⟨d.lb, rfl, Int.le_refl _, fun _ h1 h2 => absurd h2 (Int.not_lt.2 h1), fun h h' => by omega⟩
  | succ f ih =>
    rw [raiseLb]
    by_cases hc : (d.holes.contains d.lb && decide (d.lb ≤ d.ub)) = true
    · rw [if_pos hc]
      simp only [Bool.and_eq_true, List.contains_iff_mem, decide_eq_true_eq] at hc
      obtain ⟨l, h1, h2, h3, h4⟩ := ih { d with lb := d.lb + 1 }
      simp only at h4
      -- `h2 : d.lb + 1 ≤ l` unfolds to `d.lb < l`; a `z` with `d.lb ≤ z < l` is `d.lb`, a hole by the guard
      -- `hc.1`, or above it
      exact ⟨l, h1, Int.le_of_lt h2, fun z hz1 hz2 => (Int.lt_or_eq_of_le hz1).elim (h3 z · hz2) (· ▸ hc.1),
        fun hf => h4 (by omega)⟩
    · rw [if_neg hc]
      simp only [Bool.and_eq_true, List.contains_iff_mem, decide_eq_true_eq, not_and] at hc
      exact ⟨d.lb, rfl, Int.le_refl _, fun _ h1 h2 => absurd h2 (Int.not_lt.2 h1), fun _ hle hm => hc hm hle⟩

theorem lowerUb_eq (f : Nat) (d : SD) : ∃ u, lowerUb f d = { d with ub := u } ∧ u ≤ d.ub ∧
    (∀ z, u < z → z ≤ d.ub → z ∈ d.holes) ∧
    (d.ub - d.lb + 1 < f → d.lb ≤ u → u ∉ d.holes) := by
  induction f generalizing d with
  | zero => exact ⟨d.ub, rfl, Int.le_refl _, fun _ h1 h2 => absurd h2 (Int.not_le.2 h1), fun h h' => by omega⟩
  | succ f ih =>
    rw [lowerUb]
    by_cases hc : (d.holes.contains d.ub && decide (d.lb ≤ d.ub)) = true
    · rw [if_pos hc]
      simp only [Bool.and_eq_true, List.contains_iff_mem, decide_eq_true_eq] at hc
      obtain ⟨u, h1, h2, h3, h4⟩ := ih { d with ub := d.ub - 1 }
      simp only at h4
      exact ⟨u, h1, Int.le_of_lt (Int.lt_of_le_sub_one h2),
        fun z hz1 hz2 => (Int.lt_or_eq_of_le hz2).elim (fun h => h3 z hz1 (Int.le_sub_one_of_lt h)) (· ▸ hc.1),
        fun hf => h4 (by omega)⟩
    · rw [if_neg hc]
      simp only [Bool.and_eq_true, List.contains_iff_mem, decide_eq_true_eq, not_and] at hc
      exact ⟨d.ub, rfl, Int.le_refl _, fun _ h1 h2 => absurd h2 (Int.not_le.2 h1), fun _ hle hm => hc hm hle⟩

/-- what `finish` establishes besides preserving the meaning -/
structure Normal (d : SD) : Prop where
  bounds : d.inc = false → d.lb ≤ d.ub
  lbFree : d.inc = false → d.lb ∉ d.holes
  ubFree : d.inc = false → d.ub ∉ d.holes
  inside : d.inc = false → ∀ h ∈ d.holes, d.lb < h ∧ h < d.ub

theorem lt_fuelOf (d : SD) : d.ub - d.lb + 1 < fuelOf d := by
  unfold fuelOf; omega

theorem finish_eq (d : SD) : ∃ l u, finish d = updInc (dropHoles { d with lb := l, ub := u }) ∧
    (∀ z, SD.Sem { d with lb := l, ub := u } z ↔ d.Sem z) ∧ (l ≤ u → l ∉ d.holes ∧ u ∉ d.holes) := by
  obtain ⟨l, e1, hl, hl', hdone1⟩ := raiseLb_eq (fuelOf d) d
  obtain ⟨u, e2, hu, hu', hdone2⟩ := lowerUb_eq (fuelOf { d with lb := l }) { d with lb := l }
  refine ⟨l, u, by unfold finish; simp only [e1, e2], fun z => ?_,
    fun h => ⟨hdone1 (lt_fuelOf d) (Int.le_trans h hu), hdone2 (lt_fuelOf { d with lb := l }) h⟩⟩
  simp only [SD.Sem]
  constructor
  · rintro ⟨h1, h2, h3, h4⟩; exact ⟨h1, Int.le_trans hl h2, Int.le_trans h3 hu, h4⟩
  · rintro ⟨h1, h2, h3, h4⟩
    exact ⟨h1, Int.not_lt.1 fun h => h4 (hl' z h2 h), Int.not_lt.1 fun h => h4 (hu' z h h3), h4⟩

theorem updInc_dropHoles_sem (d : SD) (h : d.lb ≤ d.ub → d.lb ∉ d.holes ∧ d.ub ∉ d.holes) (z : Int) :
    (updInc (dropHoles d)).Sem z ↔ d.Sem z := by
  unfold updInc dropHoles
  cases hinc : d.inc with
  | true => simp [hinc, SD.Sem]
  | false =>
    simp only [hinc, Bool.false_eq_true, if_false, SD.Sem, decide_eq_false_iff_not,
      List.mem_filter, Bool.and_eq_true, decide_eq_true_eq, not_and, true_and]
    -- goal: `¬d.lb > d.ub ∧ d.lb ≤ z ∧ z ≤ d.ub ∧ (z ∈ d.holes → d.lb < z → ¬z < d.ub) ↔
    --   d.lb ≤ z ∧ z ≤ d.ub ∧ z ∉ d.holes`
    constructor
    · rintro ⟨hle, h2, h3, h4⟩
      -- a hole between the bounds that is neither of them survives the filter
      have hf := h (Int.not_lt.1 hle)
      exact ⟨h2, h3, fun hm => h4 hm (Int.lt_iff_le_and_ne.2 ⟨h2, fun e => hf.1 (e ▸ hm)⟩)
        (Int.lt_iff_le_and_ne.2 ⟨h3, fun e => hf.2 (e ▸ hm)⟩)⟩
    · rintro ⟨h2, h3, h4⟩
      exact ⟨Int.not_lt.2 (Int.le_trans h2 h3), h2, h3, fun hm _ => absurd hm h4⟩

theorem finish_sem (d : SD) (z : Int) : (finish d).Sem z ↔ d.Sem z := by
  obtain ⟨l, u, e, hsem, hfree⟩ := finish_eq d
  rw [e, updInc_dropHoles_sem _ hfree, hsem]

theorem updInc_dropHoles_normal (d : SD) : Normal (updInc (dropHoles d)) := by
  unfold updInc dropHoles
  cases hinc : d.inc with
  | true => constructor <;> simp [hinc]
  | false =>
    have inside : ∀ h ∈ d.holes.filter (fun h => decide (d.lb < h) && decide (h < d.ub)), d.lb < h ∧ h < d.ub :=
      fun h hh => by simpa only [Bool.and_eq_true, decide_eq_true_eq] using (List.mem_filter.1 hh).2
    simp only [Bool.false_eq_true, if_false]
    -- `bounds`: `inc = decide (lb > ub)` is `false`
    exact ⟨fun h => Int.not_lt.1 (of_decide_eq_false h), fun _ hm => Int.lt_irrefl _ (inside _ hm).1,
      fun _ hm => Int.lt_irrefl _ (inside _ hm).2, fun _ => inside⟩

theorem finish_normal (d : SD) : Normal (finish d) := by
  obtain ⟨l, u, e, -⟩ := finish_eq d
  rw [e]; exact updInc_dropHoles_normal _

theorem forall_mem_ite {c : Prop} [Decidable c] {p : Atom} {P : Atom → Prop} :
    (∀ q ∈ (if c then [p] else []), P q) ↔ (c → P p) := by
  split <;> simp [*]

theorem forall_mem_describe (x : Nat) (d orig : SD) (merge : Bool) (P : Atom → Prop) :
    (∀ q ∈ describe x d orig merge, P q) ↔
      if merge && decide (d.lb = d.ub) && decide (d.lb ≠ orig.lb) && decide (d.ub ≠ orig.ub) then P (.eq x d.lb)
      else (d.lb ≠ orig.lb → P (.ge x d.lb)) ∧ (d.ub ≠ orig.ub → P (.le x d.ub)) ∧
        ∀ h ∈ d.holes, d.lb < h → h < d.ub → h ∉ orig.holes → P (.ne x h) := by
  unfold describe
  by_cases hm : (merge && decide (d.lb = d.ub) && decide (d.lb ≠ orig.lb) && decide (d.ub ≠ orig.ub)) = true
  · rw [if_pos hm, if_pos hm]; exact List.forall_mem_singleton
  · rw [if_neg hm, if_neg hm]
    simp only [List.forall_mem_append, forall_mem_ite, List.forall_mem_map, List.mem_filter, Bool.and_eq_true,
      decide_eq_true_eq, Bool.not_eq_true', List.contains_eq_mem, decide_eq_false_iff_not, and_imp, and_assoc]

/-- **The description means the domain**, for a value of the original domain. -/
theorem describe_sem (x : Nat) (d orig : SD) (merge : Bool) (hn : Normal d) (hinc : d.inc = false)
    (z : Int) (hz : orig.Sem z) :
    d.Sem z ↔ ∀ q ∈ describe x d orig merge, q.holdsVal z = true := by
  have hb := hn.bounds hinc
  have hlf := hn.lbFree hinc
  obtain ⟨_, hz1, hz2, hz3⟩ := hz
  rw [forall_mem_describe]
  simp only [SD.Sem, hinc, true_and, Atom.holdsVal, decide_eq_true_eq]
  split
  · rename_i hm
    simp only [Bool.and_eq_true, decide_eq_true_eq] at hm
    constructor
    · rintro ⟨h1, h2, _⟩; omega
    · intro h; subst h; exact ⟨Int.le_refl _, hb, hlf⟩
  · constructor
    · rintro ⟨h1, h2, h3⟩
      exact ⟨fun _ => h1, fun _ => h2, fun h hh _ _ _ e => h3 (e ▸ hh)⟩
    · rintro ⟨h1, h2, h3⟩
      refine ⟨if he : d.lb = orig.lb then he ▸ hz1 else h1 he, if he : d.ub = orig.ub then he ▸ hz2 else h2 he,
        fun hh => ?_⟩
      -- a hole of `d` is strictly inside; it is new, since `z` is in the original domain
      have hin := hn.inside hinc z hh
      exact h3 z hh hin.1 hin.2 hz3 rfl

/-- **The semantic minimiser preserves the meaning of the predicates of one variable** over the
variable's original domain. -/
theorem minimiseVar_sem (x : Nat) (orig : SD) (preds : List Atom) (merge : Bool) (z : Int)
    (hz : orig.Sem z) :
    (∀ p ∈ preds, p.holdsVal z = true) ↔
      (match minimiseVar x orig preds merge with
       | none => False
       | some out => ∀ q ∈ out, q.holdsVal z = true) := by
  unfold minimiseVar
  simp only
  generalize hd : finish (preds.foldl applyAtom orig) = d
  have hsem : d.Sem z ↔ (∀ p ∈ preds, p.holdsVal z = true) := by
    rw [← hd, finish_sem, foldl_applyAtom_sem]
    exact and_iff_right hz
  have hn : Normal d := hd ▸ finish_normal _
  rw [← hsem]
  cases hinc : d.inc with
  | true => simp [SD.Sem, hinc]
  | false => exact describe_sem x d orig merge hn hinc z hz

example : minimiseVar 0 ⟨0, 10, [], false⟩ [.ge 0 3, .le 0 3] true = some [.eq 0 3] := by decide
example : minimiseVar 0 ⟨0, 10, [], false⟩ [.ge 0 3, .le 0 3] false = some [.ge 0 3, .le 0 3] := by decide
example : minimiseVar 0 ⟨0, 10, [], false⟩ [.ge 0 5, .le 0 4] true = none := by decide
example : minimiseVar 0 ⟨0, 10, [], false⟩ [.ne 0 5, .ge 0 5, .le 0 5] true = none := by decide
example : minimiseVar 0 ⟨0, 10, [4], false⟩ [.ge 0 3, .ne 0 3, .ne 0 7, .ge 0 0] true = some [.ge 0 5, .ne 0 7] := by decide

/-- the loop over `present_ids` in `minimise`; the first inconsistent domain answers for all -/
def minimiseVars (orig : Nat → SD) (ng : List Atom) (merge : Bool) : List Nat → Option (List Atom)
  | [] => some []
  | x :: xs =>
    match minimiseVar x (orig x) (ng.filter (fun p => p.var == x)) merge with
    | none => none
    | some out =>
      match minimiseVars orig ng merge xs with
      | none => none
      | some rest => some (out ++ rest)

/-- `SemanticMinimiser::minimise`: the variables are treated in the order of their first occurrence;
`none` stands for the answer `[trivially false]` -/
def minimise (orig : Nat → SD) (ng : List Atom) (merge : Bool) : Option (List Atom) :=
  minimiseVars orig ng merge (ng.map Atom.var).eraseDups

theorem describe_var (x : Nat) (d orig : SD) (merge : Bool) : ∀ q ∈ describe x d orig merge, q.var = x := by
  rw [forall_mem_describe]
  split
  · rfl
  · exact ⟨fun _ => rfl, fun _ => rfl, fun _ _ _ _ _ => rfl⟩

theorem minimiseVar_var (x : Nat) (orig : SD) (preds : List Atom) (merge : Bool) (out : List Atom)
    (h : minimiseVar x orig preds merge = some out) : ∀ q ∈ out, q.var = x := by
  unfold minimiseVar at h
  simp only at h
  split at h
  · cases h
  · cases h; exact describe_var _ _ _ _

theorem minimiseVars_vars (orig : Nat → SD) (ng : List Atom) (merge : Bool) (xs : List Nat) (out : List Atom)
    (h : minimiseVars orig ng merge xs = some out) : ∀ q ∈ out, q.var ∈ xs := by
  fun_induction minimiseVars orig ng merge xs generalizing out with
  | case1 => cases h; exact fun _ hq => nomatch hq
  | case2 => cases h
  | case3 => cases h
  | case4 x xs o1 h1 o2 h2 ih =>
    cases h
    exact List.forall_mem_append.2 ⟨fun q hq => minimiseVar_var x (orig x) _ merge o1 h1 q hq ▸ List.mem_cons_self ..,
      fun q hq => List.mem_cons_of_mem _ (ih o2 h2 q hq)⟩

theorem holds_of_var {p : Atom} {x : Nat} (h : p.var = x) (a : List Int) : p.holds a = p.holdsVal (val a x) := by
  rw [Atom.holds, h]

theorem minimiseVars_sem (orig : Nat → SD) (ng : List Atom) (merge : Bool) (xs : List Nat)
    (a : List Int) (ha : ∀ x, (orig x).Sem (val a x)) :
    (∀ p ∈ ng, p.var ∈ xs → p.holds a = true) ↔
      (match minimiseVars orig ng merge xs with
       | none => False
       | some out => ∀ q ∈ out, q.holds a = true) := by
  induction xs with
  | nil => simp [minimiseVars]
  | cons x xs ih =>
    have hx := minimiseVar_sem x (orig x) (ng.filter (fun p => p.var == x)) merge (val a x) (ha x)
    have hfilter : (∀ p ∈ ng.filter (fun p => p.var == x), p.holdsVal (val a x) = true) ↔
        (∀ p ∈ ng, p.var = x → p.holds a = true) := by
      simp only [List.mem_filter, beq_iff_eq, and_imp]
      exact forall_congr' fun p => forall_congr' fun _ => forall_congr' fun hv => by rw [holds_of_var hv]
    simp only [List.mem_cons, or_imp, imp_and, forall_and]
    rw [← hfilter, hx, ih]
    simp only [minimiseVars]
    cases hm : minimiseVar x (orig x) (ng.filter (fun p => p.var == x)) merge with
    | none => simp
    | some out =>
      have hv := minimiseVar_var x (orig x) _ merge out hm
      cases hr : minimiseVars orig ng merge xs with
      | none => simp
      | some rest =>
        simp only [List.forall_mem_append]
        exact and_congr_left' (forall_congr' fun q => forall_congr' fun hq => by rw [holds_of_var (hv q hq)])

/-- **The semantic minimiser preserves the meaning of a nogood**, for every assignment within the
original domains. -/
theorem minimise_sem (orig : Nat → SD) (ng : List Atom) (merge : Bool) (a : List Int)
    (ha : ∀ x, (orig x).Sem (val a x)) :
    (∀ p ∈ ng, p.holds a = true) ↔
      (match minimise orig ng merge with
       | none => False
       | some out => ∀ q ∈ out, q.holds a = true) := by
  unfold minimise
  rw [← minimiseVars_sem orig ng merge _ a ha]
  exact ⟨fun h p hp _ => h p hp, fun h p hp => h p hp (List.mem_eraseDups.2 (List.mem_map_of_mem hp))⟩

end Pumpkin.SemMin
