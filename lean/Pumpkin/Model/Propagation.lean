/-
Models of the propagators, as functions on domains.

A domain state is the list of the current value lists of the variables (`Doms`, as in
`Check/AtomRup.lean`). Every propagator of `pumpkin-solver/src/propagators` that is modelled here is
a function `Doms → Option Doms` (`none` = conflict, including an emptied domain), written statement
by statement after its `debug_propagate_from_scratch` (which is what `propagate` computes too: the
incremental propagators — `LinearLeq` with its trailed sums, `LinearNe` with its counters — are
specified by their from-scratch version; the correspondence check is what ties the incremental code
to it):

* `linLePass`     — `arithmetic/linear_less_or_equal.rs`
* `linNePass`     — `arithmetic/linear_not_equal.rs`
* `absPass`       — `arithmetic/absolute_value.rs`
* `maxPass`       — `arithmetic/maximum.rs`
* `timesPass`     — `arithmetic/integer_multiplication.rs` (`propagate_signs`, `perform_propagation`)
* `divPass`       — `arithmetic/division.rs` (sign normalisation, `propagate_signs`,
                    `propagate_upper_bounds`, `propagate_positive_domains`)
* `elementPass`   — `element.rs` (four phases)
* `clausePass`    — the unit rule of the nogood propagator on a permanent clause
* `PropInst.pass` (`reified` arm) — `reified_propagator.rs` (`propagate_reification` through
                    `detect_inconsistency`, inner propagation when the literal is true)

Reads go through `lb`/`ub`/`fixed`/`contains` of a *view* (`scale * x + offset`), writes through
`setLb`/`setUb`/`remove`, which keep the values of the underlying variable whose image satisfies the
bound (what `AffineView::set_lower_bound` etc. compute by inverting the view with rounding,
`Model/NumExt.lean`). Arithmetic is over `Int`; `/` of the Rust code is `Int.tdiv`.

`compile` mirrors how `pumpkin_solver::constraints` decomposes a constraint into propagators
(`equals` = two inequalities, `not_equals`, `all_different` = pairwise binary not-equals, `minimum` =
maximum over negated views, negation, half and full reification); `fixpoint` runs all propagators
until nothing changes. Core Lean only.
-/
import Pumpkin.Spec.Basic
import Pumpkin.Check.AtomRup
import Pumpkin.Model.SemMin

namespace Pumpkin.Pg

abbrev Doms := AtomRup.Doms

def dom (d : Doms) (x : Nat) : List Int := d.getD x []

def minL : List Int → Int
  | [] => 0
  | x :: xs => xs.foldl min x

def maxL : List Int → Int
  | [] => 0
  | x :: xs => xs.foldl max x

/-- value of a view for a value of its variable -/
def vapp (w : View) (x : Int) : Int := w.scale * x + w.offset

/-- current values of a view -/
def vals (d : Doms) (w : View) : List Int := (dom d w.var).map (vapp w)

def lb (d : Doms) (w : View) : Int := minL (vals d w)
def ub (d : Doms) (w : View) : Int := maxL (vals d w)
def fixed (d : Doms) (w : View) : Bool := lb d w == ub d w
def contains (d : Doms) (w : View) (v : Int) : Bool := (vals d w).contains v

/-- keep the values of `w`'s variable whose image satisfies `f`; an emptied domain is a conflict -/
def keep (d : Doms) (w : View) (f : Int → Bool) : Option Doms :=
  let d' := AtomRup.restrict d w.var (fun x => f (vapp w x))
  if (dom d' w.var).isEmpty then none else some d'

def setLb (d : Doms) (w : View) (v : Int) : Option Doms := keep d w (fun z => decide (v ≤ z))
def setUb (d : Doms) (w : View) (v : Int) : Option Doms := keep d w (fun z => decide (z ≤ v))
def remove (d : Doms) (w : View) (v : Int) : Option Doms := keep d w (fun z => decide (z ≠ v))
def postAtom (d : Doms) (p : Atom) : Option Doms := keep d (View.ofVar p.var) p.holdsVal

def atomTrue (d : Doms) (p : Atom) : Bool := (dom d p.var).all p.holdsVal
def atomFalse (d : Doms) (p : Atom) : Bool := (dom d p.var).all (fun v => !p.holdsVal v)

def neg (w : View) : View := w.scaled (-1)

/-! ### LinearLeq -/

def sumLb (d : Doms) (ts : List View) : Int := (ts.map (lb d)).foldl (· + ·) 0

/-- `for (i, x_i)`: `bound = c - (lb_lhs - lb(x_i))`; `if ub(x_i) > bound { set_upper_bound }` -/
def linLeLoop (all : List View) (c : Int) : List View → Doms → Option Doms
  | [], d => some d
  | t :: rest, d =>
    let bound := c - (sumLb d all - lb d t)
    (if ub d t > bound then setUb d t bound else some d).bind (linLeLoop all c rest)

def linLeInconsistent (ts : List View) (c : Int) (d : Doms) : Bool := decide (c < sumLb d ts)

def linLePass (ts : List View) (c : Int) (d : Doms) : Option Doms :=
  if linLeInconsistent ts c d then none else linLeLoop ts c ts d

/-! ### LinearNe -/

def fixedSum (d : Doms) (ts : List View) : Int :=
  ((ts.filter (fixed d)).map (lb d)).foldl (· + ·) 0

def linNePass (ts : List View) (c : Int) (d : Doms) : Option Doms :=
  let nFixed := (ts.filter (fixed d)).length
  if nFixed + 1 < ts.length then some d
  else if nFixed + 1 = ts.length then
    match ts.find? (fun t => !fixed d t) with
    | some t => remove d t (c - fixedSum d ts)
    | none => some d
  else if fixedSum d ts = c then none
  else some d

/-! ### IntAbs -/

def iabs (x : Int) : Int := if x < 0 then -x else x

def absPass (s r : View) (d0 : Doms) : Option Doms :=
  (setLb d0 r 0).bind fun d1 =>
  let sLb := lb d1 s
  let sUb := ub d1 s
  (setUb d1 r (max (iabs sLb) (iabs sUb))).bind fun d2 =>
  (if sLb > 0 then setLb d2 r sLb else if sUb < 0 then setLb d2 r (iabs sUb) else some d2).bind fun d3 =>
  let rUb := ub d3 r
  let rLb := lb d3 r
  (setLb d3 s (-rUb)).bind fun d4 =>
  (setUb d4 s rUb).bind fun d5 =>
  if sUb ≤ 0 then setUb d5 s (-rLb) else if sLb ≥ 0 then setLb d5 s rLb else some d5

/-! ### Maximum -/

/-- first loop: every element is at most `ub(rhs)`; collects the largest lower / upper bound -/
def maxLoop1 (rhsUb : Int) : List View → Int → Int → Doms → Option (Int × Int × Doms)
  | [], mLb, mUb, d => some (mLb, mUb, d)
  | x :: rest, mLb, mUb, d =>
    (setUb d x rhsUb).bind fun d' =>
      maxLoop1 rhsUb rest (if lb d' x > mLb then lb d' x else mLb) (if ub d' x > mUb then ub d' x else mUb) d'

/-- the elements which can still reach `rhsLb` -/
def maxSupport (d : Doms) (xs : List View) (rhsLb : Int) : List View :=
  xs.filter (fun x => decide (ub d x ≥ rhsLb))

def maxPass (xs : List View) (r : View) (d0 : Doms) : Option Doms :=
  match xs with
  | [] => some d0
  | x0 :: _ =>
    let rhsUb := ub d0 r
    (maxLoop1 rhsUb xs (lb d0 x0) (ub d0 x0) d0).bind fun (mLb, mUb, d1) =>
    (setLb d1 r mLb).bind fun d2 =>
    (if rhsUb > mUb then setUb d2 r mUb else some d2).bind fun d3 =>
    let rhsLb := lb d3 r
    match maxSupport d3 xs rhsLb with
    | [x] => if lb d3 x < rhsLb then setLb d3 x rhsLb else some d3
    | _ => some d3

/-! ### IntTimes -/

def divCeilPos (n m : Int) : Int := Int.tdiv n m + (if Int.tmod n m > 0 then 1 else if Int.tmod n m < 0 then -1 else 0)

def guard (b : Bool) (f : Doms → Option Doms) (d : Doms) : Option Doms := if b then f d else some d

def timesSigns (a b c : View) (d0 : Doms) : Option Doms := do
  let aMin := lb d0 a; let aMax := ub d0 a
  let bMin := lb d0 b; let bMax := ub d0 b
  let cMin := lb d0 c; let cMax := ub d0 c
  let d ← guard (aMin ≥ 0 && bMin ≥ 0) (fun d => setLb d c 0) d0
  let d ← guard (aMin ≥ 1 && cMin ≥ 1) (fun d => setLb d b 1) d
  let d ← guard (bMin ≥ 1 && cMin ≥ 1) (fun d => setLb d a 1) d
  let d ← guard (aMax ≤ 0 && bMax ≤ 0) (fun d => setLb d c 0) d
  let d ← guard (aMax ≤ -1 && cMax ≤ -1) (fun d => setLb d b 1) d
  let d ← guard (bMax ≤ -1 && cMax ≤ -1) (fun d => setLb d a 1) d
  let d ← guard (aMax ≤ 0 && bMin ≥ 0) (fun d => setUb d c 0) d
  let d ← guard (aMin ≥ 0 && bMax ≤ 0) (fun d => setUb d c 0) d
  let d ← guard (aMax ≤ -1 && cMin ≥ 1) (fun d => setUb d b (-1)) d
  let d ← guard (aMin ≥ 1 && cMax ≤ -1) (fun d => setUb d b (-1)) d
  let d ← guard (bMax ≤ -1 && cMin ≥ 1) (fun d => setUb d a (-1)) d
  guard (bMin ≥ 1 && cMax ≤ -1) (fun d => setUb d a (-1)) d

def timesCheck (a b c : View) (d : Doms) : Option Doms :=
  if fixed d a && fixed d b && fixed d c && lb d a * lb d b != lb d c then none else some d

def timesPass (a b c : View) (d0 : Doms) : Option Doms := do
  let d1 ← timesSigns a b c d0
  let aMin := lb d1 a; let aMax := ub d1 a
  let bMin := lb d1 b; let bMax := ub d1 b
  let cMin := lb d1 c; let cMax := ub d1 c
  let d ← guard (aMin ≥ 0 && bMin ≥ 0) (fun d => (setUb d c (aMax * bMax)).bind (fun d => setLb d c (aMin * bMin))) d1
  let d ← guard (bMin ≥ 0 && bMax ≥ 1 && cMin ≥ 1) (fun d => setLb d a (divCeilPos cMin bMax)) d
  let d ← guard (bMin ≥ 1 && cMin ≥ 0 && cMax ≥ 1) (fun d => setUb d a (Int.tdiv cMax bMin)) d
  let d ← guard (aMin ≥ 1 && cMin ≥ 0 && cMax ≥ 1) (fun d => setUb d b (Int.tdiv cMax aMin)) d
  let d ← guard (aMin ≥ 0 && aMax ≥ 1 && cMin ≥ 1) (fun d => setLb d b (divCeilPos cMin aMax)) d
  timesCheck a b c d

/-! ### Division -/

def divSigns (n dn r : View) (d0 : Doms) : Option Doms := do
  let rMin := lb d0 r; let rMax := ub d0 r
  let nMin := lb d0 n; let nMax := ub d0 n
  let _ := dn
  let d ← guard (nMin ≥ 0 && rMin < 0) (fun d => setLb d r 0) d0
  let d ← guard (nMin ≤ 0 && rMin > 0) (fun d => setLb d n 1) d
  let d ← guard (nMax ≤ 0 && rMax > 0) (fun d => setUb d r 0) d
  guard (nMax ≥ 0 && rMax < 0) (fun d => setUb d n (-1)) d

def divUpper (n dn r : View) (d0 : Doms) : Option Doms := do
  let rMax := ub d0 r
  let nMax := ub d0 n
  let dMin := lb d0 dn
  let dMax := ub d0 dn
  let newMaxR := Int.tdiv nMax dMin
  let d ← guard (rMax > newMaxR) (fun d => setUb d r newMaxR) d0
  let newMaxN := (rMax + 1) * dMax - 1
  guard (nMax > newMaxN) (fun d => setUb d n newMaxN) d

def divPositive (n dn r : View) (d0 : Doms) : Option Doms := do
  let rMin := lb d0 r; let rMax := ub d0 r
  let nMin := lb d0 n; let nMax := ub d0 n
  let dMin := lb d0 dn; let dMax := ub d0 dn
  let newMinR := Int.tdiv nMin dMax
  let d ← guard (rMin < newMinR) (fun d => setLb d r newMinR) d0
  let newMinN := dMin * rMin
  let d ← guard (nMin < newMinN) (fun d => setLb d n newMinN) d
  let d ← guard (rMin > 0 && dMax > Int.tdiv nMax rMin) (fun d => setUb d dn (Int.tdiv nMax rMin)) d
  let dividend := nMin + 1
  let divisor := rMax + 1
  let res := Int.tdiv dividend divisor
  let newMinD := res + (if res * divisor < dividend then 1 else 0)
  guard (dMin < newMinD) (fun d => setLb d dn newMinD) d

def divPass (n dn r : View) (d0 : Doms) : Option Doms :=
  -- `initialise_at_root` asserts that the denominator's domain does not contain 0; the model does
  -- nothing when it does (the generators keep 0 out of denominators)
  if contains d0 dn 0 then some d0
  else if lb d0 dn < 0 && ub d0 dn > 0 then some d0
  else
    let swap := ub d0 (dn.scaled 1) < 0
    let num := if swap then n.scaled (-1) else n.scaled 1
    let nnum := if swap then n.scaled 1 else n.scaled (-1)
    let den := if swap then dn.scaled (-1) else dn.scaled 1
    let nr := r.scaled (-1)
    do
      let d ← divSigns num den r d0
      let d ← guard (ub d num ≥ 0 && ub d r ≥ 0) (divUpper num den r) d
      let d ← guard (ub d nnum ≥ 0 && ub d nr ≥ 0) (divUpper nnum den nr) d
      let d ← guard (lb d num ≥ 0 && lb d r ≥ 0) (divPositive num den r) d
      guard (lb d nnum ≥ 0 && lb d nr ≥ 0) (divPositive nnum den nr) d

/-! ### Element -/

/-- (index value, element view) pairs -/
def indexedFrom (k : Int) : List View → List (Int × View)
  | [] => []
  | x :: xs => (k, x) :: indexedFrom (k + 1) xs

def indexed (xs : List View) : List (Int × View) := indexedFrom 0 xs

def elementRemoveLoop (iv : View) (rLb rUb : Int) (d0 : Doms) : List (Int × View) → Doms → Option Doms
  | [], d => some d
  | (k, x) :: rest, d =>
    -- the removals are decided on the state before the loop (`to_remove` is collected first)
    (if contains d0 iv k && (rLb > ub d0 x || rUb < lb d0 x) then remove d iv k else some d).bind
      (elementRemoveLoop iv rLb rUb d0 rest)

def elementPass (iv : View) (xs : List View) (r : View) (d0 : Doms) : Option Doms :=
  (setLb d0 iv 0).bind fun d1 =>
  (setUb d1 iv ((xs.length : Int) - 1)).bind fun d2 =>
  let support := (indexed xs).filter (fun p => contains d2 iv p.1)
  let rLbNew := (support.map (fun p => lb d2 p.2)).foldl min 2147483647
  let rUbNew := (support.map (fun p => ub d2 p.2)).foldl max (-2147483648)
  (setLb d2 r rLbNew).bind fun d3 =>
  (setUb d3 r rUbNew).bind fun d4 =>
  (elementRemoveLoop iv (lb d4 r) (ub d4 r) d4 (indexed xs) d4).bind fun d5 =>
  if fixed d5 iv then
    match xs[(lb d5 iv).toNat]? with
    | some x => (setLb d5 x (lb d5 r)).bind (fun d6 => setUb d6 x (ub d5 r))
    | none => some d5
  else some d5

/-! ### clause (unit rule of the nogood propagator) -/

def clausePass (ls : List Atom) (d : Doms) : Option Doms :=
  if ls.any (atomTrue d) then some d
  else
    match ls.filter (fun p => !atomFalse d p) with
    | [] => none
    | p :: rest => if rest.all (fun q => q == p) then postAtom d p else some d

/-! ### cumulative: time-table filtering (see `Model/Cumulative.lean` for the description) -/

def ttTasks (ts : List Task) : List Task := ts.filter (fun k => decide (0 < k.dur) && decide (0 < k.use))

def mandatoryAt (d : Doms) (k : Task) (t : Int) : Bool :=
  decide (ub d k.start ≤ t) && decide (t < lb d k.start + k.dur)

def heightAt (d : Doms) (ts : List Task) (t : Int) : Int :=
  (ts.map (fun k => if mandatoryAt d k t then k.use else 0)).foldl (· + ·) 0

def intRange (lo hi : Int) : List Int := (List.range (hi + 1 - lo).toNat).map (fun (i : Nat) => lo + Int.ofNat i)

/-- the time points of the mandatory parts (where the profile can be positive) -/
def ttTimes (d : Doms) (ts : List Task) : List Int :=
  ts.flatMap (fun k => intRange (ub d k.start) (lb d k.start + k.dur - 1))

/-- the rules of `find_possible_updates` for one task and one time point; the profile height is read
off the current domains -/
def ttTaskAt (holes : Bool) (cap : Int) (ts : List Task) (t : Int) (k : Task) (d : Doms) : Option Doms :=
  if heightAt d ts t + k.use > cap ∧ mandatoryAt d k t = false ∧ lb d k.start ≤ t ∧ t < ub d k.start + k.dur then
    (if lb d k.start + k.dur > t ∧ lb d k.start ≤ t then setLb d k.start (t + 1) else some d).bind fun d1 =>
    (if ub d1 k.start + k.dur > t ∧ ub d1 k.start ≤ t then setUb d1 k.start (t - k.dur) else some d1).bind fun d2 =>
    if holes then keep d2 k.start (fun z => !(decide (t - k.dur < z) && decide (z ≤ t))) else some d2
  else some d

def ttTasksAt (holes : Bool) (cap : Int) (ts : List Task) (t : Int) : List Task → Doms → Option Doms
  | [], d => some d
  | k :: r, d => (ttTaskAt holes cap ts t k d).bind (ttTasksAt holes cap ts t r)

def ttPoints (holes : Bool) (cap : Int) (ts : List Task) : List Int → Doms → Option Doms
  | [], d => some d
  | t :: r, d =>
    if heightAt d ts t > cap then none
    else if heightAt d ts t > 0 then (ttTasksAt holes cap ts t ts d).bind (ttPoints holes cap ts r)
    else ttPoints holes cap ts r d

/-- one evaluation of the time-table: conflict check and filtering -/
def ttPass (holes : Bool) (ts : List Task) (cap : Int) (d : Doms) : Option Doms :=
  let ts' := ttTasks ts
  if ts'.any (fun k => decide (k.use > cap)) then none
  else ttPoints holes cap ts' (ttTimes d ts') d


/-! ### propagator instances, reification -/

inductive PropInst where
  | linLe (ts : List View) (c : Int)
  | linNe (ts : List View) (c : Int)
  | abs (s r : View)
  | max (xs : List View) (r : View)
  | times (a b c : View)
  | div (n d r : View)
  | element (i : View) (xs : List View) (r : View)
  | clause (ls : List Atom)
  | cumulative (holes : Bool) (ts : List Task) (cap : Int)
  | reified (r : Atom) (p : PropInst)
deriving Repr, Inhabited

namespace PropInst

/-- the constraint a propagator instance stands for -/
def cons : PropInst → Cons
  | linLe ts c => .linLe ts c
  | linNe ts c => .linNe ts c
  | abs s r => .abs s r
  | max xs r => .max xs r
  | times a b c => .times a b c
  | div n d r => .div n d r
  | element i xs r => .element i xs r
  | clause ls => .clause ls
  | cumulative _ ts cap => .cumulative ts cap
  | reified r p => .implied r p.cons

/-- `Propagator::detect_inconsistency` (only `LinearLeq` overrides the default `None`) -/
def inconsistent : PropInst → Doms → Bool
  | linLe ts c, d => linLeInconsistent ts c d
  | _, _ => false

def pass : PropInst → Doms → Option Doms
  | linLe ts c, d => linLePass ts c d
  | linNe ts c, d => linNePass ts c d
  | abs s r, d => absPass s r d
  | max xs r, d => maxPass xs r d
  | times a b c, d => timesPass a b c d
  | div n dn r, d => divPass n dn r d
  | element i xs r, d => elementPass i xs r d
  | clause ls, d => clausePass ls d
  | cumulative holes ts cap, d => ttPass holes ts cap d
  | reified r p, d0 =>
    -- propagate_reification
    (if !(atomTrue d0 r || atomFalse d0 r) && p.inconsistent d0 then postAtom d0 r.neg else some d0).bind fun d =>
    if atomTrue d r then p.pass d else some d

end PropInst

/-! ### decomposition of constraints into propagators (`pumpkin_solver::constraints`) -/

def negViews (ts : List View) : List View := ts.map neg

def pairs : List View → List (View × View)
  | [] => []
  | x :: xs => xs.map (fun y => (x, y)) ++ pairs xs

/-- negation of a negatable constraint, as `NegatableConstraint::negation` builds it -/
def negCons : Cons → Option Cons
  | .linLe ts c => some (.linLe (negViews ts) (-c - 1))
  | .linEq ts c => some (.linNe ts c)
  | .linNe ts c => some (.linEq ts c)
  | .clause ls => some (.conj (ls.map Atom.neg))
  | .conj ls => some (.clause (ls.map Atom.neg))
  | .neg c => some c
  | _ => none

/-- the domain a variable was created with, as the semantic minimiser sees it -/
def sdOf (vs : List Int) : SemMin.SD :=
  let lo := minL vs
  let hi := maxL vs
  { lb := lo, ub := hi, holes := ((List.range (hi - lo + 1).toNat).map (fun (k : Nat) => lo + Int.ofNat k)).filter (fun v => !vs.contains v) }

def sdOfVar (orig : Doms) (x : Nat) : SemMin.SD :=
  if x < orig.length then sdOf (dom orig x) else { lb := 0, ub := 0, holes := [] }

/-- `add_permanent_nogood` → `preprocess_nogood`: the clause is stored as the nogood of its negated
literals after the semantic minimiser (with equality merging) has rewritten it relative to the
original domains. `none`: the nogood is inconsistent, the clause holds trivially and nothing is
stored. -/
def minClause (orig : Doms) (ls : List Atom) : Option (List Atom) :=
  (SemMin.minimise (sdOfVar orig) (ls.map Atom.neg) true).map (fun ng => ng.map Atom.neg)

def clauseInst (orig : Doms) (ls : List Atom) : List PropInst :=
  match minClause orig ls with
  | some ls' => [.clause ls']
  | none => []

/-- `Constraint::post` (`imp = none`) and `Constraint::implied_by` (`imp = some r`) -/
def compileWith (orig : Doms) (imp : Option Atom) : Cons → Option (List PropInst)
  | .linLe ts c => some [wrap (.linLe ts c)]
  | .linEq ts c => some [wrap (.linLe ts c), wrap (.linLe (negViews ts) (-c))]
  | .linNe ts c => some [wrap (.linNe ts c)]
  | .times a b c => some [wrap (.times a b c)]
  | .div n d r => some [wrap (.div n d r)]
  | .abs s r => some [wrap (.abs s r)]
  | .max xs r => some [wrap (.max xs r)]
  | .min xs r => some [wrap (.max (negViews xs) (neg r))]
  | .element i xs r => some [wrap (.element i xs r)]
  | .allDiff xs => some ((pairs xs).map (fun p => wrap (.linNe [p.1.scaled 1, p.2.scaled (-1)] 0)))
  | .clause ls => some (clauseInst orig (match imp with | some r => ls ++ [r.neg] | none => ls))
  | .conj ls => some (ls.flatMap (fun l => clauseInst orig (match imp with | some r => [r.neg, l] | none => [l])))
  | .cumulative ts cap => some [wrap (.cumulative false ts cap)]
  | _ => none
where
  wrap (p : PropInst) : PropInst := match imp with | some r => .reified r p | none => p

/-- strip (iterated) negation -/
def resolveNeg : Nat → Cons → Option Cons
  | 0, _ => none
  | fuel + 1, .neg c => (resolveNeg fuel c).bind negCons
  | _, c => some c

def consDepth : Cons → Nat
  | .neg c => consDepth c + 1
  | .implied _ c => consDepth c + 1
  | .reif _ c => consDepth c + 1
  | _ => 1

def compile (orig : Doms) (c : Cons) : Option (List PropInst) :=
  match c with
  | .implied r c' => (resolveNeg (consDepth c' + 1) c').bind (compileWith orig (some r))
  | .reif r c' =>
    (resolveNeg (consDepth c' + 1) c').bind fun pos =>
      (negCons pos).bind fun ng =>
        (compileWith orig (some r) pos).bind fun ps =>
          (compileWith orig (some r.neg) ng).map fun qs => ps ++ qs
  | c => (resolveNeg (consDepth c + 1) c).bind (compileWith orig none)

def compileAll (orig : Doms) : List Cons → Option (List PropInst)
  | [] => some []
  | c :: cs => (compile orig c).bind fun ps => (compileAll orig cs).map fun qs => ps ++ qs

/-! ### fixpoint -/

def size (d : Doms) : Nat := (d.map List.length).foldl (· + ·) 0

/-- one round: every propagator once, in order -/
def round : List PropInst → Doms → Option Doms
  | [], d => some d
  | p :: ps, d => (p.pass d).bind (round ps)

/-- rounds until nothing changes; every productive round removes a value, so `size d + 1` rounds
always suffice (not proved here) -/
def iterate (ps : List PropInst) : Nat → Doms → Option Doms
  | 0, d => some d
  | fuel + 1, d =>
    match round ps d with
    | none => none
    | some d' => if size d' = size d then some d' else iterate ps fuel d'

def fixpoint (ps : List PropInst) (d : Doms) : Option Doms :=
  if d.any List.isEmpty then none else iterate ps (size d + 1) d

/-! ### posting at the root

`Solver::add_propagator` initialises the propagator and propagates to the fixpoint. A *reified*
propagator whose inner `initialise_at_root` fails (`LinearLeq`: `detect_inconsistency`; `LinearNe`:
`check_for_conflict`, i.e. every term fixed and the sum equal to the right-hand side) remembers the
conflict and sets its reification literal to false in its first propagation — with the domains at the
moment of posting. Later, during search, only `detect_inconsistency` (`LinearLeq`) does that. -/

def PropInst.initConflict : PropInst → Doms → Bool
  | .linLe ts c, d => linLeInconsistent ts c d
  | .linNe ts c, d => ts.all (fixed d) && decide (fixedSum d ts = c)
  -- `CumulativeConstraint::has_task_exceeding_capacity`: decided when the constraint is posted
  | .cumulative _ ts cap, _ => (ttTasks ts).any (fun k => decide (k.use > cap))
  | _, _ => false

def initPost (d : Doms) : PropInst → Option Doms
  | .reified r q => if q.initConflict d then postAtom d r.neg else some d
  | _ => some d

def initPosts : List PropInst → Doms → Option Doms
  | [], d => some d
  | p :: ps, d => (initPost d p).bind (initPosts ps)

/-- posts the constraints one after the other; `none` = a posting reports infeasibility -/
def postAll (orig : Doms) : List Cons → List PropInst → Doms → Option (Option (List PropInst × Doms))
  | [], ps, d => some (some (ps, d))
  | c :: cs, ps, d =>
    match compile orig c with
    | none => none            -- not modelled
    | some qs =>
      match (initPosts qs d).bind (fixpoint (ps ++ qs)) with
      | none => some none
      | some d' => postAll orig cs (ps ++ qs) d'

def rootFix (orig : Doms) (cs : List Cons) : Option (Option Doms) :=
  if orig.any List.isEmpty then some none
  else (postAll orig cs [] orig).map (fun r => r.map (·.2))

end Pumpkin.Pg
