/-
A model of the search loop in its simplest configuration (`ConflictResolver::NoLearning`, no
restarts): decide, propagate to the fixpoint, on a conflict undo the last decision and post its
negation (`NoLearningResolver::process`), report a solution when the brancher has no decision left
and unsatisfiability when a conflict remains at the root (`constraint_satisfaction_solver.rs`,
`solve_internal`).

The decision strategy is a parameter: any state-passing function.
-/
import Pumpkin.Model.PropagationChecks
import Pumpkin.Model.PropagationCompile

namespace Pumpkin.Pg

open Pumpkin.AtomRup (assume inDoms_assume)

structure Frame where
  before : Doms
  dec : Atom
deriving Repr

inductive Choice (σ : Type) where
  | decide (p : Atom) (s : σ)
  | done
  | abort

inductive Outcome where
  | sat (a : List Int)
  | unsat
  -- no answer: the fuel ran out, the strategy aborted, or it said `done` in a state that is not a full
  -- assignment at its fixpoint
  | out
deriving Repr, DecidableEq

def allFixed (d : Doms) : Bool := d.all (fun l => l.length == 1)
def assignmentOf (d : Doms) : List Int := d.map (fun l => l.headD 0)

/-- `NoLearningResolver::process`, repeated while the negated decision fails as well -/
def backtrack (ps : List PropInst) : List Frame → Option (Doms × List Frame)
  | [] => none
  | f :: rest =>
    match fixpoint ps (assume f.before f.dec.neg) with
    | some d => some (d, rest)
    | none => backtrack ps rest

def search {σ : Type} (ps : List PropInst) (strat : σ → Doms → Choice σ) : Nat → σ → Doms → List Frame → Outcome
  | 0, _, _, _ => .out
  | fuel + 1, s, cur, stack =>
    match strat s cur with
    | .abort => .out
    | .done =>
      -- every variable is fixed and propagation is at its fixpoint (the solver's own
      -- `debug_fixed_point_propagation`)
      if allFixed cur then
        match fixpoint ps (sing (assignmentOf cur)) with
        | some _ => .sat (assignmentOf cur)
        | none => .out
      else .out
    | .decide p s' =>
      match fixpoint ps (assume cur p) with
      | some d => search ps strat fuel s' d (⟨cur, p⟩ :: stack)
      | none =>
        match backtrack ps (⟨cur, p⟩ :: stack) with
        | none => .unsat
        | some (d, st) => search ps strat fuel s' d st

theorem inDoms_assume_iff {d : Doms} {a : List Int} {p : Atom} (hp : p.var < d.length) :
    inDoms (assume d p) a = true ↔ inDoms d a = true ∧ p.holds a = true := by
  rw [assume, AtomRup.inDoms_restrict_iff]
  exact and_congr_right fun _ => ⟨fun h => h hp, fun h _ => h⟩

/-- the invariant of the search: every solution within the start domains is in the current domains
or in the still-open alternative of some frame -/
def Covered (a : List Int) (cur : Option Doms) (stack : List Frame) : Prop :=
  (∃ d, cur = some d ∧ inDoms d a = true) ∨ ∃ f ∈ stack, inDoms (assume f.before f.dec.neg) a = true

theorem Covered.assume {ps : List PropInst} {a : List Int} (hw : ∀ p ∈ ps, p.Wf a.length)
    (hsat : ∀ p ∈ ps, p.cons.sat a = true) {cur : Doms} {stack : List Frame} (hcov : Covered a (some cur) stack)
    (p : Atom) : Covered a (fixpoint ps (assume cur p)) (⟨cur, p⟩ :: stack) := by
  rcases hcov with ⟨d, e, hin⟩ | ⟨f, hf, hin⟩
  · cases e
    cases hpa : p.holds a with
    | true =>
      have hin := inDoms_assume hin hpa
      obtain ⟨d', e, h, _⟩ := fixpoint_ok ps hw hsat _ hin (inDoms_length hin).symm
      exact Or.inl ⟨d', e, h⟩
    | false => exact Or.inr ⟨⟨cur, p⟩, List.mem_cons_self .., inDoms_assume hin (by rw [Atom.neg_holds, hpa]; rfl)⟩
  · exact Or.inr ⟨f, List.mem_cons_of_mem _ hf, hin⟩

theorem backtrack_covered (ps : List PropInst) (a : List Int) (hw : ∀ p ∈ ps, p.Wf a.length)
    (hsat : ∀ p ∈ ps, p.cons.sat a = true) (stack : List Frame) (hc : Covered a none stack) :
    ∃ d st, backtrack ps stack = some (d, st) ∧ Covered a (some d) st := by
  obtain ⟨g, hg, hin⟩ := hc.resolve_left fun ⟨_, e, _⟩ => nomatch e
  clear hc
  fun_induction backtrack ps stack with
  | case1 => cases hg
  | case2 f rest d hd =>
    refine ⟨d, rest, rfl, ?_⟩
    rcases List.mem_cons.1 hg with rfl | hg
    · exact Or.inl ⟨d, rfl, fixpoint_keeps_solutions ps hw _ d (inDoms_length hin).symm hd a hin hsat⟩
    · exact Or.inr ⟨g, hg, hin⟩
  | case3 f rest hn ih =>
    rcases List.mem_cons.1 hg with rfl | hg
    · exact absurd hsat (fixpoint_conflict_sound ps hw _ (inDoms_length hin).symm hn a hin)
    · exact ih hg

/-- a hypothesis of `C02.nolearning_search_unsat_sound` and `C02.modelled_solver_unsat_sound` only: no proof needs it -/
def StratWf {σ : Type} (n : Nat) (strat : σ → Doms → Choice σ) : Prop :=
  ∀ s d p s', strat s d = .decide p s' → p.var < n

theorem search_unsat_sound {σ : Type} (ps : List PropInst) (strat : σ → Doms → Choice σ) (a : List Int)
    (hw : ∀ p ∈ ps, p.Wf a.length) (hsat : ∀ p ∈ ps, p.cons.sat a = true)
    (fuel : Nat) (s : σ) (cur : Doms) (stack : List Frame)
    (hcov : Covered a (some cur) stack) : search ps strat fuel s cur stack ≠ .unsat := by
  fun_induction search ps strat fuel s cur stack with
  | case6 _ _ _ _ p _ _ _ hd ih => exact ih (hd ▸ hcov.assume hw hsat p)  -- a decision, no conflict
  | case7 _ _ _ _ p _ _ hnone hbt =>  -- a conflict and no frame to return to: the answer `unsat`
    obtain ⟨_, _, e, _⟩ := backtrack_covered ps a hw hsat _ (hnone ▸ hcov.assume hw hsat p)
    exact nomatch hbt.symm.trans e
  | case8 _ _ _ _ p _ _ hnone _ _ hbt ih =>  -- a conflict, backtracked
    -- `hnone : fixpoint … = none`; `hbt : backtrack … = some (d, st)`
    obtain ⟨_, _, e, hc⟩ := backtrack_covered ps a hw hsat _ (hnone ▸ hcov.assume hw hsat p)
    cases hbt.symm.trans e
    exact ih hc
  | _ => exact nofun  -- the other branches answer `out` or `sat`

theorem assignmentOf_sing {d : Doms} (h : allFixed d = true) : sing (assignmentOf d) = d := by
  rw [sing, assignmentOf, List.map_map]
  refine (List.map_congr_left fun l hl => ?_).trans (List.map_id d)
  match l, List.all_eq_true.1 h l hl with
  | [v], _ => rfl  -- every other shape of `l` contradicts `(l.length == 1) = true`

theorem backtrack_inv (ps : List PropInst) (I : Doms → Prop)
    (hI : ∀ d p d', I d → fixpoint ps (assume d p) = some d' → I d') (stack : List Frame)
    (hs : ∀ f ∈ stack, I f.before) (d : Doms) (st : List Frame) (h : backtrack ps stack = some (d, st)) :
    I d ∧ ∀ f ∈ st, I f.before := by
  fun_induction backtrack ps stack with
  | case1 => cases h
  | case2 f rest d1 hf => cases h; exact ⟨hI _ _ _ (hs f (List.mem_cons_self ..)) hf, fun g hg => hs g (List.mem_cons_of_mem _ hg)⟩
  | case3 f rest _ ih => exact ih (fun g hg => hs g (List.mem_cons_of_mem _ hg)) h

/-- the search answers `sat a` in the state `sing a`, which inherits every property `I` that decisions followed by
fixpoints preserve -/
theorem search_sat_inv {σ : Type} (ps : List PropInst) (strat : σ → Doms → Choice σ) (I : Doms → Prop)
    (hI : ∀ d p d', I d → fixpoint ps (assume d p) = some d' → I d') (a : List Int)
    (fuel : Nat) (s : σ) (cur : Doms) (stack : List Frame) (hc : I cur) (hs : ∀ f ∈ stack, I f.before)
    (h : search ps strat fuel s cur stack = .sat a) : I (sing a) ∧ ∃ d', fixpoint ps (sing a) = some d' := by
  fun_induction search ps strat fuel s cur stack with
  | case3 _ _ cur _ _ hfix d' hf => cases h; exact ⟨(assignmentOf_sing hfix).symm ▸ hc, d', hf⟩  -- the answer `sat`
  | case6 _ _ _ _ _ _ _ _ hf ih => exact ih (hI _ _ _ hc hf) (List.forall_mem_cons.2 ⟨hc, hs⟩) h  -- a decision
  | case8 _ _ _ _ _ _ _ _ d st hbt ih =>  -- a conflict, backtracked
    obtain ⟨b1, b2⟩ := backtrack_inv ps I hI _ (List.forall_mem_cons.2 ⟨hc, hs⟩) d st hbt
    exact ih b1 b2 h
  | _ => cases h

theorem search_sat_sound {σ : Type} (ps : List PropInst) (strat : σ → Doms → Choice σ) (a : List Int)
    (fuel : Nat) (s : σ) (cur : Doms) (stack : List Frame)
    (h : search ps strat fuel s cur stack = .sat a)
    (hw : ∀ p ∈ ps, p.Wf a.length) (hpre : ∀ p ∈ ps, p.Pre a) : ∀ p ∈ ps, p.cons.sat a = true := by
  obtain ⟨_, d', hf⟩ := search_sat_inv ps strat (fun _ => True) (fun _ _ _ _ _ => trivial) a fuel s cur stack trivial
    (fun _ _ => trivial) h
  exact (fixpoint_checks ps hw hpre d' hf).2

theorem search_sat_below {σ : Type} (ps : List PropInst) (strat : σ → Doms → Choice σ) (d0 : Doms) (a : List Int)
    (fuel : Nat) (s : σ) (h : search ps strat fuel s d0 [] = .sat a) : inDoms d0 a = true :=
  (search_sat_inv ps strat (Below d0) (fun _ p _ hd e => (hd.assume p).step (fixpoint_nar ps _) e) a fuel s d0 []
    (Below.refl d0) (fun _ hf => nomatch hf) h).1.inDoms (inDoms_sing a)

/-- `rootFix` returns the domains only (its `postAll` drops the propagators it compiled), so the list the search
runs is compiled again; the theorems below use the two results independently of each other -/
def solveNL {σ : Type} (m : Model) (strat : σ → Doms → Choice σ) (fuel : Nat) (s0 : σ) : Option Outcome :=
  match compileAll m.doms m.cons, rootFix m.doms m.cons with
  | some ps, some (some d0) => some (search ps strat fuel s0 d0 [])
  | some _, some none => some .unsat
  | _, _ => none

theorem solveNL_unsat_sound {σ : Type} (m : Model) (hw : ∀ c ∈ m.cons, consWf m.doms.length c)
    (strat : σ → Doms → Choice σ) (fuel : Nat) (s0 : σ)
    (h : solveNL m strat fuel s0 = some .unsat) : solutions m = [] := by
  unfold solveNL at h
  split at h
  · rename_i ps d0 hc hr
    refine (solutions_eq_nil_iff m).2 fun a => Bool.eq_false_iff.2 fun hs => ?_
    have hin0 := rootFix_encloses m hw d0 hr a ((mem_solutions m a).2 hs)
    rw [Model.sat_iff] at hs
    exact search_unsat_sound ps strat a (inDoms_length hs.1 ▸ compileAll_wf m.doms m.cons ps hc hw)
      ((compileAll_sat_iff m.doms m.cons ps hc a hs.1).2 hs.2) fuel s0 d0 [] (Or.inl ⟨d0, rfl, hin0⟩) (Option.some.inj h)
  · rename_i hr
    exact rootFix_conflict_unsat m hw hr
  · cases h

theorem solveNL_sat_sound {σ : Type} (m : Model) (hw : ∀ c ∈ m.cons, consWf m.doms.length c)
    (strat : σ → Doms → Choice σ) (fuel : Nat) (s0 : σ) (a : List Int)
    (h : solveNL m strat fuel s0 = some (.sat a))
    (hpre : ∀ ps, compileAll m.doms m.cons = some ps → ∀ p ∈ ps, p.Pre a) : m.sat a = true := by
  unfold solveNL at h
  split at h
  · rename_i ps d0 hc hr
    have h := Option.some.inj h
    have hin := (rootFix_below m.doms m.cons d0 hr).inDoms (search_sat_below ps strat d0 a fuel s0 h)
    have hs := search_sat_sound ps strat a fuel s0 d0 [] h (inDoms_length hin ▸ compileAll_wf m.doms m.cons ps hc hw)
      (hpre ps hc)
    exact Model.sat_iff.2 ⟨hin, (compileAll_sat_iff m.doms m.cons ps hc a hin).1 hs⟩
  · cases h
  · cases h

end Pumpkin.Pg
