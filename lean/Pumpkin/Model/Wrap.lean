/-
32-bit instantiations, operation by operation as written in the Rust source. `wrap32` is two's
complement wrap-around (what a release build does; a build with overflow checks panics exactly
when `wrap32 z ≠ z`). The 64-bit `wrap64` / `fits64` stand beside it and are used by nothing
(`Model/Drcp.lean` has a `wrap64` of its own).
-/
import Pumpkin.Spec.Basic

namespace Pumpkin

def wrap32 (z : Int) : Int := (z + 2147483648) % 4294967296 - 2147483648
def wrap64 (z : Int) : Int := (z + 9223372036854775808) % 18446744073709551616 - 9223372036854775808

def fits32 (z : Int) : Prop := -2147483648 ≤ z ∧ z ≤ 2147483647
def fits64 (z : Int) : Prop := -9223372036854775808 ≤ z ∧ z ≤ 9223372036854775807

instance (z : Int) : Decidable (fits32 z) := by unfold fits32; infer_instance
instance (z : Int) : Decidable (fits64 z) := by unfold fits64; infer_instance

theorem wrap32_fits (z : Int) : fits32 (wrap32 z) := by
  unfold fits32 wrap32; omega

theorem wrap32_eq_iff {z : Int} : wrap32 z = z ↔ fits32 z :=
  ⟨fun h => h ▸ wrap32_fits z, fun h => by unfold fits32 at h; unfold wrap32; omega⟩

theorem wrap64_of_fits {z : Int} (h : fits64 z) : wrap64 z = z := by
  unfold fits64 at h; unfold wrap64; omega

/-- `AffineView::map`: `self.scale * value + self.offset` in `i32` -/
def View.map32 (w : View) (x : Int) : Int := wrap32 (wrap32 (w.scale * x) + w.offset)

/-- sufficient, not necessary: a product which wraps can be wrapped back by the sum (`⟨2, -1, 0⟩` at `2^30`) -/
theorem View.map32_exact (w : View) (x : Int) (h1 : fits32 (w.scale * x))
    (h2 : fits32 (w.scale * x + w.offset)) : w.map32 x = w.scale * x + w.offset := by
  unfold View.map32
  rw [wrap32_eq_iff.2 h1, wrap32_eq_iff.2 h2]

theorem View.map32_wraps (w : View) (x : Int) (h1 : fits32 (w.scale * x))
    (h2 : ¬ fits32 (w.scale * x + w.offset)) : w.map32 x ≠ w.scale * x + w.offset := by
  unfold View.map32
  rw [wrap32_eq_iff.2 h1]
  exact mt wrap32_eq_iff.1 h2

/-- `LinearLessOrEqualPropagator::propagate`: `self.c - (lower_bound_left_hand_side - lb_i)` in
`i32`, where the left-hand side bound was accumulated in `i64` and converted with `try_into`. -/
def linLeBound32 (c lbLhs lbI : Int) : Int := wrap32 (c - wrap32 (lbLhs - lbI))

theorem linLeBound32_exact (c lbLhs lbI : Int) (h1 : fits32 (lbLhs - lbI))
    (h2 : fits32 (c - (lbLhs - lbI))) : linLeBound32 c lbLhs lbI = c - (lbLhs - lbI) := by
  unfold linLeBound32
  rw [wrap32_eq_iff.2 h1, wrap32_eq_iff.2 h2]

/-- `IntegerMultiplicationPropagator`: products of bounds in `i32` -/
def mul32 (a b : Int) : Int := wrap32 (a * b)

theorem mul32_exact (a b : Int) (h : fits32 (a * b)) : mul32 a b = a * b := wrap32_eq_iff.2 h

end Pumpkin
