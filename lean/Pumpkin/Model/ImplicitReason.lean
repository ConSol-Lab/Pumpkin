/-
Model of the *implicit reasons* of conflict analysis
(`engine/conflict_analysis/conflict_analysis_context.rs`, `get_propagation_reason`, case 2):
a predicate that is true but not literally on the trail is explained from the trail entry at whose
position it became true. `implicitReason trail queried` mirrors the `match (trail_entry.predicate,
predicate)` arm by arm, including the `pumpkin_assert_simple!` guards (a failed guard or the
catch-all `unreachable!` is `none`). A reason is the trail entry itself, or a decomposition of the
queried predicate (`Shape`); everything else is read off that.
-/
import Pumpkin.Spec.Basic

namespace Pumpkin.Implicit

def implicitReason (trail queried : Atom) : Option (List Atom) :=
  match trail, queried with
  | .ge _ t, .ge x i =>
    if t > i then some [trail]
    else if t < i then some [.ge x (i - 1), .ne x (i - 1)]
    else none
  | .ge _ t, .ne _ c => if t > c then some [trail] else none
  | .ge _ _, .eq x c => some [.ge x c, .le x c]
  | .le _ t, .le x i =>
    if t < i then some [trail]
    else if t > i then some [.le x (i + 1), .ne x (i + 1)]
    else none
  | .le _ t, .ne _ c => if c > t then some [trail] else none
  | .le _ _, .eq x c => some [.ge x c, .le x c]
  | .ne _ c, .ge x i => if i > c then some [.ge x (i - 1), .ne x (i - 1)] else none
  | .ne _ c, .le x i => if i < c then some [.le x (i + 1), .ne x (i + 1)] else none
  | .ne _ _, .eq x c => some [.ge x c, .le x c]
  | _, _ => none

inductive Shape (trail : Atom) : Atom → List Atom → Prop
  | entry {q : Atom} : (∀ z, trail.holdsVal z = true → q.holdsVal z = true) → Shape trail q [trail]
  | ge (x : Nat) (i : Int) : Shape trail (.ge x i) [.ge x (i - 1), .ne x (i - 1)]
  | le (x : Nat) (i : Int) : Shape trail (.le x i) [.le x (i + 1), .ne x (i + 1)]
  | eq (x : Nat) (c : Int) : Shape trail (.eq x c) [.ge x c, .le x c]

theorem implicitReason_shape {trail queried : Atom} {r : List Atom}
    (h : implicitReason trail queried = some r) : Shape trail queried r := by
  revert h
  -- one goal for each `if` branch of each arm, in the order of the definition; those that answer
  -- `none` go at once, in the others `r` is the answer
  fun_cases implicitReason trail queried <;> rintro ⟨⟩
  · exact .entry fun z => by simp only [Atom.holdsVal, decide_eq_true_eq]; omega  -- ge/ge, t > i
  · exact .ge ..  -- ge/ge, t < i
  · exact .entry fun z => by simp only [Atom.holdsVal, decide_eq_true_eq]; omega  -- ge/ne
  · exact .eq ..  -- ge/eq
  · exact .entry fun z => by simp only [Atom.holdsVal, decide_eq_true_eq]; omega  -- le/le, t < i
  · exact .le ..  -- le/le, t > i
  · exact .entry fun z => by simp only [Atom.holdsVal, decide_eq_true_eq]; omega  -- le/ne
  · exact .eq ..  -- le/eq
  · exact .ge ..  -- ne/ge
  · exact .le ..  -- ne/le
  · exact .eq ..  -- ne/eq

/-- **Every implicit reason entails the predicate it explains**, for every integer value of the
variable. `hv` is how the code calls it: the trail entry is looked up through the queried predicate's
domain. The proof has no use for it: `holdsVal` ignores the variable. -/
theorem implicit_entails (trail queried : Atom) (r : List Atom) (hv : trail.var = queried.var)
    (h : implicitReason trail queried = some r) (z : Int)
    (hr : ∀ p ∈ r, p.holdsVal z = true) : queried.holdsVal z = true := by
  cases implicitReason_shape h with
  | entry he => exact he z (hr _ (List.mem_cons_self ..))
  | ge | le | eq =>
    have h1 := hr _ (List.mem_cons_self ..)
    have h2 := hr _ (List.mem_cons_of_mem _ (List.mem_cons_self ..))
    simp only [Atom.holdsVal, decide_eq_true_eq] at h1 h2 ⊢
    omega

theorem implicit_same_var (trail queried : Atom) (r : List Atom) (hv : trail.var = queried.var)
    (h : implicitReason trail queried = some r) : ∀ p ∈ r, p.var = queried.var := by
  intro p hp
  cases implicitReason_shape h with
  | entry => rw [List.mem_singleton.1 hp, hv]
  | ge | le | eq =>
    simp only [List.mem_cons, List.not_mem_nil, or_false] at hp
    rcases hp with rfl | rfl <;> rfl

/-- `hne` is met whenever there is a reason: `implicitReason p p = none` for every `p` -/
theorem implicit_smaller (trail queried : Atom) (r : List Atom)
    (h : implicitReason trail queried = some r) (hne : trail ≠ queried) : queried ∉ r := by
  intro hm
  cases implicitReason_shape h with
  | entry => exact hne (List.mem_singleton.1 hm).symm
  | ge | le =>
    simp only [List.mem_cons, List.not_mem_nil, or_false, Atom.ge.injEq, Atom.le.injEq, reduceCtorEq] at hm
    omega
  | eq => simp only [List.mem_cons, List.not_mem_nil, reduceCtorEq, or_false] at hm

/-- lower-bound predicates over one variable which differ have different bounds: the assertion
`trail_lower_bound < input_lower_bound` of the bound/bound arm (the `else none` of the model) can fail only
if the queried predicate is the trail entry itself, which the code has dealt with before. For `ge` only. -/
theorem bounds_not_equal_ge (x : Nat) (t i : Int) (hne : Atom.ge x t ≠ Atom.ge x i) : t ≠ i := by
  intro h; subst h; exact hne rfl

example : implicitReason (.ne 0 4) (.ge 0 5) = some [.ge 0 4, .ne 0 4] := by decide
example : implicitReason (.ge 0 7) (.ge 0 5) = some [.ge 0 7] := by decide
example : implicitReason (.ge 0 3) (.le 0 5) = none := by decide

end Pumpkin.Implicit
