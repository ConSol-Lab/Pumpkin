/-
The updates of one `IntegerDomain` (`Model/Assignments.lean`): each removes exactly the values its predicate
excludes, `undo_trail_entry` takes it back, and the bounds of a non-empty domain stay off the holes (`Tight`).
-/
import Pumpkin.Model.Assignments

namespace Pumpkin.Asg

namespace IDom

def mem (d : IDom) (v : Int) : Prop := d.lb ≤ v ∧ v ≤ d.ub ∧ d.hole v = false

theorem contains_iff (d : IDom) (v : Int) : d.contains v = true ↔ d.mem v := by
  simp [contains, mem, and_assoc]

/-- with fuel to get past `ub` the loop ends where the Rust `while` does: past `ub` or off the holes -/
theorem skipUp_spec (d : IDom) (ub : Int) : ∀ (n : Nat) (b : Int), ub < b + n →
    b ≤ skipUp d ub n b ∧ (∀ v, b ≤ v → v < skipUp d ub n b → d.hole v = true) ∧
    (ub < skipUp d ub n b ∨ d.hole (skipUp d ub n b) = false) := by
  intro n
  induction n with
  | zero =>
    intro b hn
    rw [skipUp]
    exact ⟨Int.le_refl _, fun v h1 h2 => absurd h2 (Int.not_lt.2 h1), .inl (by simpa using hn)⟩
  | succ n ih =>
    intro b hn
    rw [skipUp]
    by_cases hc : (d.hole b && decide (b ≤ ub)) = true
    · rw [if_pos hc]
      simp only [Bool.and_eq_true, decide_eq_true_eq] at hc
      obtain ⟨h1, h2, h3⟩ := ih (b + 1) (by omega)
      refine ⟨Int.le_trans (Int.le_add_one (Int.le_refl b)) h1, fun v hv hlt => ?_, h3⟩
      rcases Int.lt_or_eq_of_le hv with hbv | rfl
      · exact h2 v hbv hlt
      · exact hc.1
    · rw [if_neg hc]
      simp only [Bool.and_eq_true, decide_eq_true_eq] at hc
      refine ⟨Int.le_refl _, fun v h1 h2 => absurd h2 (Int.not_lt.2 h1), ?_⟩
      cases hh : d.hole b
      · exact .inr rfl
      · exact .inl (Int.not_le.1 fun hle => hc ⟨hh, hle⟩)

theorem skipDown_spec (d : IDom) (lb : Int) : ∀ (n : Nat) (b : Int), b < lb + n →
    skipDown d lb n b ≤ b ∧ (∀ v, v ≤ b → skipDown d lb n b < v → d.hole v = true) ∧
    (skipDown d lb n b < lb ∨ d.hole (skipDown d lb n b) = false) := by
  intro n
  induction n with
  | zero =>
    intro b hn
    rw [skipDown]
    exact ⟨Int.le_refl _, fun v h1 h2 => absurd h2 (Int.not_lt.2 h1), .inl (by simpa using hn)⟩
  | succ n ih =>
    intro b hn
    rw [skipDown]
    by_cases hc : (d.hole b && decide (lb ≤ b)) = true
    · rw [if_pos hc]
      simp only [Bool.and_eq_true, decide_eq_true_eq] at hc
      obtain ⟨h1, h2, h3⟩ := ih (b - 1) (by omega)
      refine ⟨Int.le_trans h1 (Int.sub_le_self b (by decide)), fun v hv hlt => ?_, h3⟩
      rcases Int.lt_or_eq_of_le hv with hvb | rfl
      · exact h2 v (Int.le_sub_one_of_lt hvb) hlt
      · exact hc.1
    · rw [if_neg hc]
      simp only [Bool.and_eq_true, decide_eq_true_eq] at hc
      refine ⟨Int.le_refl _, fun v h1 h2 => absurd h2 (Int.not_lt.2 h1), ?_⟩
      cases hh : d.hole b
      · exact .inr rfl
      · exact .inl (Int.not_le.1 fun hle => hc ⟨hh, hle⟩)

theorem setLb_cases (d : IDom) (k : Int) (l p : Nat) :
    (k ≤ d.lb ∧ d.setLb k l p = d) ∨
    (d.lb < k ∧ ∃ b, d.setLb k l p = { d with lbs := ⟨b, l, p⟩ :: d.lbs } ∧ k ≤ b ∧
      (∀ v, k ≤ v → v < b → d.hole v = true) ∧ (d.ub < b ∨ d.hole b = false)) := by
  by_cases hk : k ≤ d.lb
  · exact .inl ⟨hk, if_pos hk⟩
  · -- fuel: `ub + 1 - k ≤ toNat ..` gives `ub + 1 ≤ k + fuel`, and `ub < k + fuel` unfolds to that
    exact .inr ⟨Int.not_le.1 hk, _, if_neg hk, skipUp_spec d d.ub _ k (Int.le_add_of_sub_left_le (Int.self_le_toNat _))⟩

theorem setUb_cases (d : IDom) (k : Int) (l p : Nat) :
    (d.ub ≤ k ∧ d.setUb k l p = d) ∨
    (k < d.ub ∧ ∃ b, d.setUb k l p = { d with ubs := ⟨b, l, p⟩ :: d.ubs } ∧ b ≤ k ∧
      (∀ v, v ≤ k → b < v → d.hole v = true) ∧ (b < d.lb ∨ d.hole b = false)) := by
  by_cases hk : d.ub ≤ k
  · exact .inl ⟨hk, if_pos hk⟩
  · exact .inr ⟨Int.not_le.1 hk, _, if_neg hk, skipDown_spec d d.lb _ k (Int.le_add_of_sub_left_le (Int.self_le_toNat _))⟩

@[simp] theorem setLb_hole (d : IDom) (k : Int) (l p : Nat) (v : Int) :
    (d.setLb k l p).hole v = d.hole v := by
  unfold setLb; split <;> rfl

@[simp] theorem setUb_hole (d : IDom) (k : Int) (l p : Nat) (v : Int) :
    (d.setUb k l p).hole v = d.hole v := by
  unfold setUb; split <;> rfl

@[simp] theorem setLb_ubs (d : IDom) (k : Int) (l p : Nat) : (d.setLb k l p).ubs = d.ubs := by
  unfold setLb; split <;> rfl

@[simp] theorem setUb_lbs (d : IDom) (k : Int) (l p : Nat) : (d.setUb k l p).lbs = d.lbs := by
  unfold setUb; split <;> rfl

@[simp] theorem setLb_ub (d : IDom) (k : Int) (l p : Nat) : (d.setLb k l p).ub = d.ub := by
  unfold ub; rw [setLb_ubs]

@[simp] theorem setUb_lb (d : IDom) (k : Int) (l p : Nat) : (d.setUb k l p).lb = d.lb := by
  unfold lb; rw [setUb_lbs]

theorem setLb_mem (d : IDom) (k : Int) (l p : Nat) (v : Int) :
    (d.setLb k l p).mem v ↔ d.mem v ∧ k ≤ v := by
  rcases setLb_cases d k l p with ⟨hk, e⟩ | ⟨hk, b, e, h1, h2, _⟩ <;> rw [e]
  · exact ⟨fun h => ⟨h, Int.le_trans hk h.1⟩, And.left⟩
  · show b ≤ v ∧ v ≤ d.ub ∧ d.hole v = false ↔ _
    constructor
    · rintro ⟨hb, hu, hh⟩
      exact ⟨⟨Int.le_trans (Int.le_of_lt hk) (Int.le_trans h1 hb), hu, hh⟩, Int.le_trans h1 hb⟩
    · rintro ⟨⟨_, hu, hh⟩, hv⟩
      refine ⟨Int.not_lt.1 fun hlt => ?_, hu, hh⟩
      rw [h2 v hv hlt] at hh; cases hh

theorem setUb_mem (d : IDom) (k : Int) (l p : Nat) (v : Int) :
    (d.setUb k l p).mem v ↔ d.mem v ∧ v ≤ k := by
  rcases setUb_cases d k l p with ⟨hk, e⟩ | ⟨hk, b, e, h1, h2, _⟩ <;> rw [e]
  · exact ⟨fun h => ⟨h, Int.le_trans h.2.1 hk⟩, And.left⟩
  · show d.lb ≤ v ∧ v ≤ b ∧ d.hole v = false ↔ _
    constructor
    · rintro ⟨hl, hb, hh⟩
      exact ⟨⟨hl, Int.le_trans hb (Int.le_trans h1 (Int.le_of_lt hk)), hh⟩, Int.le_trans hb h1⟩
    · rintro ⟨⟨hl, _, hh⟩, hv⟩
      refine ⟨hl, Int.not_lt.1 fun hlt => ?_, hh⟩
      rw [h2 v hv hlt] at hh; cases hh

@[simp] theorem setTrigLb_lbs (d : IDom) : d.setTrigLb.lbs = d.lbs := by unfold setTrigLb; split <;> rfl
@[simp] theorem setTrigLb_ubs (d : IDom) : d.setTrigLb.ubs = d.ubs := by unfold setTrigLb; split <;> rfl
@[simp] theorem setTrigUb_lbs (d : IDom) : d.setTrigUb.lbs = d.lbs := by unfold setTrigUb; split <;> rfl
@[simp] theorem setTrigUb_ubs (d : IDom) : d.setTrigUb.ubs = d.ubs := by unfold setTrigUb; split <;> rfl
@[simp] theorem setTrigLb_lb (d : IDom) : d.setTrigLb.lb = d.lb := by unfold lb; rw [setTrigLb_lbs]
@[simp] theorem setTrigLb_ub (d : IDom) : d.setTrigLb.ub = d.ub := by unfold ub; rw [setTrigLb_ubs]
@[simp] theorem setTrigUb_lb (d : IDom) : d.setTrigUb.lb = d.lb := by unfold lb; rw [setTrigUb_lbs]
@[simp] theorem setTrigUb_ub (d : IDom) : d.setTrigUb.ub = d.ub := by unfold ub; rw [setTrigUb_ubs]
@[simp] theorem setTrigLb_hole (d : IDom) (v : Int) : d.setTrigLb.hole v = d.hole v := by
  unfold setTrigLb; split <;> simp [hole, *]
@[simp] theorem setTrigUb_hole (d : IDom) (v : Int) : d.setTrigUb.hole v = d.hole v := by
  unfold setTrigUb; split <;> simp [hole, *]

theorem setTrigLb_mem (d : IDom) (v : Int) : d.setTrigLb.mem v ↔ d.mem v := by simp [mem]
theorem setTrigUb_mem (d : IDom) (v : Int) : d.setTrigUb.mem v ↔ d.mem v := by simp [mem]

/-! `remove_value` records the hole and then moves each bound which sat on the value off it: the two
`if` blocks at its end, here by name -/

def trimLb (d : IDom) (w : Int) (l p : Nat) : IDom :=
  if d.lb = w then (d.setLb (w + 1) l p).setTrigLb else d

def trimUb (d : IDom) (w : Int) (l p : Nat) : IDom :=
  if d.ub = w then (d.setUb (w - 1) l p).setTrigUb else d

/-- the guard of `remove_value` -/
theorem not_mem_iff (d : IDom) (w : Int) : ¬ d.mem w ↔ w < d.lb ∨ d.ub < w ∨ d.hole w = true := by
  simp only [mem, Decidable.not_and_iff_not_or_not, Int.not_le, Bool.not_eq_false]

theorem removeValue_of_not_mem (d : IDom) (w : Int) (l p : Nat) (h : ¬ d.mem w) : d.removeValue w l p = d :=
  if_pos ((not_mem_iff d w).1 h)

theorem removeValue_of_mem (d : IDom) (w : Int) (l p : Nat) (h : d.mem w) :
    d.removeValue w l p = trimUb (trimLb { d with hus := ⟨w, l, p, false, false⟩ :: d.hus } w l p) w l p :=
  if_neg fun hc => (not_mem_iff d w).2 hc h

/-- `hd`: the newest hole record, the one `remove_value` has just pushed, is the one flagged -/
theorem trimLb_cases (d : IDom) (w : Int) (l p : Nat) {h : HU} {r : List HU} (hd : d.hus = h :: r) :
    (d.lb ≠ w ∧ trimLb d w l p = d) ∨
    (d.lb = w ∧ ∃ b, trimLb d w l p = ⟨⟨b, l, p⟩ :: d.lbs, d.ubs, { h with trigLb := true } :: r⟩ ∧
      w < b ∧ (d.ub < b ∨ d.hole b = false)) := by
  unfold trimLb
  by_cases he : d.lb = w
  · rw [if_pos he]
    rcases setLb_cases d (w + 1) l p with ⟨hk, _⟩ | ⟨_, b, e, h1, _, h3⟩
    · omega
    · exact .inr ⟨he, b, by rw [e]; simp only [setTrigLb, hd], h1, h3⟩
  · rw [if_neg he]; exact .inl ⟨he, rfl⟩

theorem trimUb_cases (d : IDom) (w : Int) (l p : Nat) {h : HU} {r : List HU} (hd : d.hus = h :: r) :
    (d.ub ≠ w ∧ trimUb d w l p = d) ∨
    (d.ub = w ∧ ∃ b, trimUb d w l p = ⟨d.lbs, ⟨b, l, p⟩ :: d.ubs, { h with trigUb := true } :: r⟩ ∧
      b < w ∧ (b < d.lb ∨ d.hole b = false)) := by
  unfold trimUb
  by_cases he : d.ub = w
  · rw [if_pos he]
    rcases setUb_cases d (w - 1) l p with ⟨hk, _⟩ | ⟨_, b, e, h1, _, h3⟩
    · omega
    · exact .inr ⟨he, b, by rw [e]; simp only [setTrigUb, hd], Int.lt_of_le_sub_one h1, h3⟩
  · rw [if_neg he]; exact .inl ⟨he, rfl⟩

theorem trimLb_mem (d : IDom) (w : Int) (l p : Nat) (h : ¬ d.mem w) (v : Int) : (trimLb d w l p).mem v ↔ d.mem v := by
  unfold trimLb
  by_cases he : d.lb = w
  · rw [if_pos he, setTrigLb_mem, setLb_mem]
    -- `w + 1 ≤ v` is what `w < v` unfolds to: `w = d.lb ≤ v`, and `v ≠ w` since `w` is no member
    exact ⟨And.left, fun hv => ⟨hv, Int.lt_iff_le_and_ne.2 ⟨he ▸ hv.1, fun e => h (e ▸ hv)⟩⟩⟩
  · rw [if_neg he]

theorem trimUb_mem (d : IDom) (w : Int) (l p : Nat) (h : ¬ d.mem w) (v : Int) : (trimUb d w l p).mem v ↔ d.mem v := by
  unfold trimUb
  by_cases he : d.ub = w
  · rw [if_pos he, setTrigUb_mem, setUb_mem]
    exact ⟨And.left, fun hv =>
      ⟨hv, Int.le_sub_one_of_lt (Int.lt_iff_le_and_ne.2 ⟨he ▸ hv.2.1, fun e => h (e ▸ hv)⟩)⟩⟩
  · rw [if_neg he]

theorem removeValue_mem (d : IDom) (w : Int) (l p : Nat) (v : Int) :
    (d.removeValue w l p).mem v ↔ d.mem v ∧ v ≠ w := by
  by_cases hm : d.mem w
  · -- recording the hole takes `w` away, and then no bound movement takes more
    have h1 : ∀ u, (({ d with hus := ⟨w, l, p, false, false⟩ :: d.hus } : IDom)).mem u ↔ d.mem u ∧ u ≠ w := by
      intro u
      simp only [mem, lb, ub, hole, List.any_cons, Bool.or_eq_false_iff, beq_eq_false_iff_ne]
      exact ⟨fun ⟨a, b, c, e⟩ => ⟨⟨a, b, e⟩, fun h => c h.symm⟩, fun ⟨⟨a, b, e⟩, c⟩ => ⟨a, b, fun h => c h.symm, e⟩⟩
    -- `h0`: once recorded as a hole, `w` is no member
    have h0 := fun h => ((h1 w).1 h).2 rfl
    rw [removeValue_of_mem d w l p hm, trimUb_mem _ _ _ _ (by rw [trimLb_mem _ _ _ _ h0]; exact h0),
      trimLb_mem _ _ _ _ h0, h1]
  · rw [removeValue_of_not_mem d w l p hm]
    exact ⟨fun h => ⟨h, fun e => hm (e ▸ h)⟩, And.left⟩

/-- `d'` abbreviates `d.removeValue w l p`: callers pass `rfl` -/
theorem removeValue_bounds (d : IDom) (w : Int) (l p : Nat) (hm : d.mem w) {d' : IDom}
    (hd : d.removeValue w l p = d') :
    (if d.lb = w then w < d'.lb ∧ (d'.lb ≤ d'.ub → d'.hole d'.lb = false) else d'.lb = d.lb) ∧
    (if d.ub = w then d'.ub < w ∧ (d'.lb ≤ d'.ub → d'.hole d'.ub = false) else d'.ub = d.ub) := by
  subst hd
  rw [removeValue_of_mem d w l p hm]
  rcases trimLb_cases { d with hus := ⟨w, l, p, false, false⟩ :: d.hus } w l p rfl with
    ⟨(ha : d.lb ≠ w), e1⟩ | ⟨(ha : d.lb = w), bl, e1, hl1, (hl2 : d.ub < bl ∨ _)⟩ <;> rw [e1]
  · rw [if_neg ha]
    rcases trimUb_cases { d with hus := ⟨w, l, p, false, false⟩ :: d.hus } w l p rfl with
      ⟨(hb : d.ub ≠ w), e2⟩ | ⟨(hb : d.ub = w), bu, e2, hu1, (hu2 : bu < d.lb ∨ _)⟩ <;> rw [e2]
    · rw [if_neg hb]; exact ⟨rfl, rfl⟩
    · rw [if_pos hb]; exact ⟨rfl, hu1, fun (hne : d.lb ≤ bu) => hu2.resolve_left (Int.not_lt.2 hne)⟩
  · rw [if_pos ha]
    rcases trimUb_cases (IDom.mk (⟨bl, l, p⟩ :: d.lbs) d.ubs (⟨w, l, p, true, false⟩ :: d.hus)) w l p rfl with
      ⟨(hb : d.ub ≠ w), e2⟩ | ⟨(hb : d.ub = w), bu, e2, hu1, (hu2 : bu < bl ∨ _)⟩ <;> rw [e2]
    · rw [if_neg hb]; exact ⟨⟨hl1, fun (hne : bl ≤ d.ub) => hl2.resolve_left (Int.not_lt.2 hne)⟩, rfl⟩
    · -- the only value has gone: the bounds have crossed
      have he : ¬ bl ≤ bu := Int.not_le.2 (Int.lt_trans hu1 hl1)
      rw [if_pos hb]
      exact ⟨⟨hl1, fun hne => absurd hne he⟩, hu1, fun hne => absurd hne he⟩

theorem undo_setLb (d : IDom) (x : Nat) (k : Int) (l p : Nat) (h : d.lb < k) :
    (d.setLb k l p).undo (.ge x k) = d := by
  rcases setLb_cases d k l p with ⟨hk, _⟩ | ⟨_, b, e, _⟩
  · exact absurd h (Int.not_lt.2 hk)
  · rw [e]; rfl

theorem undo_setUb (d : IDom) (x : Nat) (k : Int) (l p : Nat) (h : k < d.ub) :
    (d.setUb k l p).undo (.le x k) = d := by
  rcases setUb_cases d k l p with ⟨hk, _⟩ | ⟨_, b, e, _⟩
  · exact absurd h (Int.not_lt.2 hk)
  · rw [e]; rfl

theorem undo_removeValue (d : IDom) (x : Nat) (w : Int) (l p : Nat) (h : d.contains w = true) :
    (d.removeValue w l p).undo (.ne x w) = d := by
  rw [removeValue_of_mem d w l p ((contains_iff d w).1 h)]
  -- the flags of the recorded hole say which update lists were pushed to
  rcases trimLb_cases { d with hus := ⟨w, l, p, false, false⟩ :: d.hus } w l p rfl with ⟨_, e1⟩ | ⟨_, bl, e1, _⟩ <;>
    rw [e1]
  · rcases trimUb_cases { d with hus := ⟨w, l, p, false, false⟩ :: d.hus } w l p rfl with
      ⟨_, e2⟩ | ⟨_, bu, e2, _⟩ <;> rw [e2] <;> rfl
  · rcases trimUb_cases (IDom.mk (⟨bl, l, p⟩ :: d.lbs) d.ubs (⟨w, l, p, true, false⟩ :: d.hus)) w l p rfl with
      ⟨_, e2⟩ | ⟨_, bu, e2, _⟩ <;> rw [e2] <;> rfl

/-- half of `debug_bounds_check` (the other half: the bounds stay within the initial ones) -/
def Tight (d : IDom) : Prop := d.lb ≤ d.ub → d.hole d.lb = false ∧ d.hole d.ub = false

theorem tight_new (lo hi : Int) : (new lo hi).Tight := by
  intro _; simp [new, hole]

theorem tight_bounds_mem (d : IDom) (h : d.Tight) (hne : d.lb ≤ d.ub) : d.mem d.lb ∧ d.mem d.ub := by
  have := h hne
  exact ⟨⟨Int.le_refl _, hne, this.1⟩, ⟨hne, Int.le_refl _, this.2⟩⟩

theorem setLb_tight (d : IDom) (k : Int) (l p : Nat) (h : d.Tight) : (d.setLb k l p).Tight := by
  rcases setLb_cases d k l p with ⟨_, e⟩ | ⟨hk, b, e, h1, _, h3⟩ <;> rw [e]
  · exact h
  · intro (hne : b ≤ d.ub)
    exact ⟨h3.resolve_left (Int.not_lt.2 hne), (h (Int.le_trans (Int.le_of_lt hk) (Int.le_trans h1 hne))).2⟩

theorem setUb_tight (d : IDom) (k : Int) (l p : Nat) (h : d.Tight) : (d.setUb k l p).Tight := by
  rcases setUb_cases d k l p with ⟨_, e⟩ | ⟨hk, b, e, h1, _, h3⟩ <;> rw [e]
  · exact h
  · intro (hne : d.lb ≤ b)
    exact ⟨(h (Int.le_trans hne (Int.le_trans h1 (Int.le_of_lt hk)))).1, h3.resolve_left (Int.not_lt.2 hne)⟩

theorem removeValue_tight (d : IDom) (w : Int) (l p : Nat) (h : d.Tight) : (d.removeValue w l p).Tight := by
  by_cases hm : d.mem w
  · -- a moved bound is fine by `removeValue_bounds`, one which has stayed is still a value
    obtain ⟨hl, hu⟩ := removeValue_bounds d w l p hm rfl
    have hd := tight_bounds_mem d h (Int.le_trans hm.1 hm.2.1)
    intro hne
    constructor
    · by_cases ha : d.lb = w
      · rw [if_pos ha] at hl; exact hl.2 hne
      · rw [if_neg ha] at hl; rw [hl]; exact ((removeValue_mem d w l p _).2 ⟨hd.1, ha⟩).2.2
    · by_cases ha : d.ub = w
      · rw [if_pos ha] at hu; exact hu.2 hne
      · rw [if_neg ha] at hu; rw [hu]; exact ((removeValue_mem d w l p _).2 ⟨hd.2, ha⟩).2.2
  · rw [removeValue_of_not_mem d w l p hm]; exact h

end IDom

end Pumpkin.Asg
