/-
Propagation only narrows: every pass, the fixpoint and the initial posting return domains whose values
were all present before (`Sub`) over the same variables (`Below`). This needs nothing but the definitions
of the passes. The soundness of division uses it to keep the sign of the denominator across its phases; the
posting at the root and the search carry it from the `Spec` model to the answer of the modelled solver.

`Pg.dom`, `Pg.atomTrue`, `Pg.atomFalse` are `AtomRup.domOf`, `.atomTrue`, `.atomFalse` written out again in the model
file: the lemmas of `Check/AtomRup.lean` apply to them as they stand (`dom_restrict` restates one, for rewriting).
-/
import Pumpkin.Model.Propagation

namespace Pumpkin.Pg

open Pumpkin.AtomRup (restrict restrict_length assume assume_length)

def Sub (d' d : Doms) : Prop := ∀ x v, v ∈ dom d' x → v ∈ dom d x

theorem Sub.refl (d : Doms) : Sub d d := fun _ _ h => h
theorem Sub.trans {a b c : Doms} (h1 : Sub a b) (h2 : Sub b c) : Sub a c := fun x v h => h2 x v (h1 x v h)

theorem dom_restrict (d : Doms) (x : Nat) (f : Int → Bool) (y : Nat) :
    dom (restrict d x f) y = if y = x then (dom d y).filter f else dom d y := AtomRup.domOf_restrict d x f y

theorem dom_restrict_sub (d : Doms) (x : Nat) (f : Int → Bool) : Sub (restrict d x f) d := by
  intro y v hv
  rw [dom_restrict] at hv
  split at hv
  · exact (List.mem_filter.1 hv).1
  · exact hv

theorem vals_sub {d' d : Doms} (h : Sub d' d) (w : View) {v : Int} (hv : v ∈ vals d' w) : v ∈ vals d w := by
  simp only [vals, List.mem_map] at hv ⊢
  obtain ⟨z, hz, rfl⟩ := hv
  exact ⟨z, h _ _ hz, rfl⟩

/-- `d` is the narrower state: the small side comes second here, first in `Sub` -/
def Below (d0 d : Doms) : Prop := Sub d d0 ∧ d.length = d0.length

theorem Below.refl (d : Doms) : Below d d := ⟨Sub.refl d, rfl⟩

theorem Below.trans {d0 d1 d2 : Doms} (h1 : Below d0 d1) (h2 : Below d1 d2) : Below d0 d2 :=
  ⟨h2.1.trans h1.1, h2.2.trans h1.2⟩

theorem Below.inDoms {d' d : Doms} (h : Below d d') {a : List Int} (ha : inDoms d' a = true) : inDoms d a = true := by
  rw [AtomRup.inDoms_iff] at ha ⊢
  rw [h.2] at ha
  exact ⟨ha.1, fun x hx => h.1 x _ (ha.2 x hx)⟩

theorem Below.assume {d0 d : Doms} (h : Below d0 d) (p : Atom) : Below d0 (assume d p) :=
  ⟨(dom_restrict_sub _ _ _).trans h.1, by rw [assume_length, h.2]⟩

/-- `Nar d r` is `∀ d', r = some d' → Below d d'` -/
def Nar (d : Doms) (r : Option Doms) : Prop := ∀ d', r = some d' → Sub d' d ∧ d'.length = d.length

theorem Below.step {d0 d : Doms} (h : Below d0 d) {r : Option Doms} (hn : Nar d r) {d' : Doms} (e : r = some d') :
    Below d0 d' := h.trans (hn d' e)

theorem Nar.some (d : Doms) : Nar d (some d) := by
  intro d' h; cases h; exact Below.refl d

theorem Nar.none (d : Doms) : Nar d none := by intro d' h; cases h

/-- sequencing with a step that also returns other values (`maxLoop1`) -/
theorem Nar.bindWith {α : Type} {d : Doms} {r : Option α} {π : α → Doms} {g : α → Option Doms}
    (hr : Nar d (r.map π)) (hg : ∀ x, Nar (π x) (g x)) : Nar d (r.bind g) := by
  intro d' h
  cases r with
  | none => cases h
  | some x => exact Below.step (hr (π x) rfl) (hg x) h

theorem Nar.bind {d : Doms} {r : Option Doms} {g : Doms → Option Doms} (hr : Nar d r) (hg : ∀ d1, Nar d1 (g d1)) :
    Nar d (r.bind g) := Nar.bindWith (π := id) (Option.map_id_apply.symm ▸ hr) hg

theorem Nar.ite {d : Doms} {c : Prop} [Decidable c] {r s : Option Doms} (hr : Nar d r) (hs : Nar d s) :
    Nar d (if c then r else s) := by split <;> assumption

theorem Nar.keep (d : Doms) (w : View) (f : Int → Bool) : Nar d (keep d w f) := by
  intro d' h
  unfold Pumpkin.Pg.keep at h
  simp only at h
  split at h <;> cases h
  exact ⟨dom_restrict_sub _ _ _, restrict_length ..⟩

theorem Nar.setLb (d : Doms) (w : View) (v : Int) : Nar d (setLb d w v) := Nar.keep _ _ _
theorem Nar.setUb (d : Doms) (w : View) (v : Int) : Nar d (setUb d w v) := Nar.keep _ _ _
theorem Nar.remove (d : Doms) (w : View) (v : Int) : Nar d (remove d w v) := Nar.keep _ _ _
theorem Nar.postAtom (d : Doms) (p : Atom) : Nar d (postAtom d p) := Nar.keep _ _ _

theorem Nar.guard {d : Doms} {b : Bool} {f : Doms → Option Doms} (hf : Nar d (f d)) : Nar d (guard b f d) := by
  unfold Pumpkin.Pg.guard; cases b
  · exact Nar.some d
  · exact hf

theorem Nar.loop {α : Type} {f : List α → Doms → Option Doms} {step : α → Doms → Option Doms}
    (hnil : ∀ d, f [] d = Option.some d) (hcons : ∀ x r d, f (x :: r) d = (step x d).bind (f r))
    (hstep : ∀ x d, Nar d (step x d)) (l : List α) (d : Doms) : Nar d (f l d) := by
  induction l generalizing d with
  | nil => exact hnil d ▸ Nar.some d
  | cons x r ih => exact hcons x r d ▸ Nar.bind (hstep x d) ih

theorem linLePass_nar (ts : List View) (c : Int) (d : Doms) : Nar d (linLePass ts c d) := by
  unfold linLePass
  exact Nar.ite (Nar.none d)
    (Nar.loop (fun _ => rfl) (fun _ _ _ => rfl) (fun _ d => Nar.ite (Nar.setUb _ _ _) (Nar.some d)) ts d)

theorem linNePass_nar (ts : List View) (c : Int) (d : Doms) : Nar d (linNePass ts c d) := by
  unfold linNePass
  refine Nar.ite (Nar.some d) (Nar.ite ?_ (Nar.ite (Nar.none d) (Nar.some d)))
  split
  · exact Nar.remove _ _ _
  · exact Nar.some d

theorem absPass_nar (s r : View) (d : Doms) : Nar d (absPass s r d) := by
  unfold absPass
  refine Nar.bind (Nar.setLb _ _ _) (fun d1 => ?_)
  refine Nar.bind (Nar.setUb _ _ _) (fun d2 => ?_)
  refine Nar.bind (Nar.ite (Nar.setLb _ _ _) (Nar.ite (Nar.setLb _ _ _) (Nar.some d2))) (fun d3 => ?_)
  refine Nar.bind (Nar.setLb _ _ _) (fun d4 => ?_)
  refine Nar.bind (Nar.setUb _ _ _) (fun d5 => ?_)
  exact Nar.ite (Nar.setUb _ _ _) (Nar.ite (Nar.setLb _ _ _) (Nar.some d5))

theorem maxLoop1_nar (R : Int) (rest : List View) (mLb mUb : Int) (d : Doms) :
    Nar d ((maxLoop1 R rest mLb mUb d).map (·.2.2)) := by
  induction rest generalizing mLb mUb d with
  | nil => exact Nar.some d
  | cons x rest ih =>
    simp only [maxLoop1, Option.map_bind]
    exact Nar.bind (Nar.setUb _ _ _) (fun d1 => ih _ _ d1)

theorem maxPass_nar (xs : List View) (r : View) (d : Doms) : Nar d (maxPass xs r d) := by
  unfold maxPass
  cases xs with
  | nil => exact Nar.some d
  | cons x0 xs' =>
    refine Nar.bindWith (maxLoop1_nar _ _ _ _ _) (fun (M, M', d1) => ?_)
    refine Nar.bind (Nar.setLb _ _ _) (fun d2 => ?_)
    refine Nar.bind (Nar.ite (Nar.setUb _ _ _) (Nar.some d2)) (fun d3 => ?_)
    dsimp only
    split
    · exact Nar.ite (Nar.setLb _ _ _) (Nar.some d3)
    · exact Nar.some d3

theorem timesSigns_nar (a b c : View) (d : Doms) : Nar d (timesSigns a b c d) := by
  unfold timesSigns
  refine Nar.bind (Nar.guard (Nar.setLb _ _ _)) (fun d1 => ?_)
  refine Nar.bind (Nar.guard (Nar.setLb _ _ _)) (fun d2 => ?_)
  refine Nar.bind (Nar.guard (Nar.setLb _ _ _)) (fun d3 => ?_)
  refine Nar.bind (Nar.guard (Nar.setLb _ _ _)) (fun d4 => ?_)
  refine Nar.bind (Nar.guard (Nar.setLb _ _ _)) (fun d5 => ?_)
  refine Nar.bind (Nar.guard (Nar.setLb _ _ _)) (fun d6 => ?_)
  refine Nar.bind (Nar.guard (Nar.setUb _ _ _)) (fun d7 => ?_)
  refine Nar.bind (Nar.guard (Nar.setUb _ _ _)) (fun d8 => ?_)
  refine Nar.bind (Nar.guard (Nar.setUb _ _ _)) (fun d9 => ?_)
  refine Nar.bind (Nar.guard (Nar.setUb _ _ _)) (fun d10 => ?_)
  refine Nar.bind (Nar.guard (Nar.setUb _ _ _)) (fun d11 => ?_)
  exact Nar.guard (Nar.setUb _ _ _)

theorem timesPass_nar (a b c : View) (d : Doms) : Nar d (timesPass a b c d) := by
  unfold timesPass
  refine Nar.bind (timesSigns_nar _ _ _ _) (fun d1 => ?_)
  refine Nar.bind (Nar.guard (Nar.bind (Nar.setUb _ _ _) (fun d' => Nar.setLb _ _ _))) (fun d2 => ?_)
  refine Nar.bind (Nar.guard (Nar.setLb _ _ _)) (fun d3 => ?_)
  refine Nar.bind (Nar.guard (Nar.setUb _ _ _)) (fun d4 => ?_)
  refine Nar.bind (Nar.guard (Nar.setUb _ _ _)) (fun d5 => ?_)
  refine Nar.bind (Nar.guard (Nar.setLb _ _ _)) (fun d6 => ?_)
  unfold timesCheck
  exact Nar.ite (Nar.none d6) (Nar.some d6)

theorem divSigns_nar (n dn r : View) (d : Doms) : Nar d (divSigns n dn r d) := by
  unfold divSigns
  refine Nar.bind (Nar.guard (Nar.setLb _ _ _)) (fun d1 => ?_)
  refine Nar.bind (Nar.guard (Nar.setLb _ _ _)) (fun d2 => ?_)
  refine Nar.bind (Nar.guard (Nar.setUb _ _ _)) (fun d3 => ?_)
  exact Nar.guard (Nar.setUb _ _ _)

theorem divUpper_nar (n dn r : View) (d : Doms) : Nar d (divUpper n dn r d) := by
  unfold divUpper
  refine Nar.bind (Nar.guard (Nar.setUb _ _ _)) (fun d1 => ?_)
  exact Nar.guard (Nar.setUb _ _ _)

theorem divPositive_nar (n dn r : View) (d : Doms) : Nar d (divPositive n dn r d) := by
  unfold divPositive
  refine Nar.bind (Nar.guard (Nar.setLb _ _ _)) (fun d1 => ?_)
  refine Nar.bind (Nar.guard (Nar.setLb _ _ _)) (fun d2 => ?_)
  refine Nar.bind (Nar.guard (Nar.setUb _ _ _)) (fun d3 => ?_)
  exact Nar.guard (Nar.setLb _ _ _)

theorem divPass_nar (n dn r : View) (d : Doms) : Nar d (divPass n dn r d) := by
  unfold divPass
  refine Nar.ite (Nar.some d) (Nar.ite (Nar.some d) ?_)
  refine Nar.bind (divSigns_nar _ _ _ _) (fun d1 => ?_)
  refine Nar.bind (Nar.guard (divUpper_nar _ _ _ _)) (fun d2 => ?_)
  refine Nar.bind (Nar.guard (divUpper_nar _ _ _ _)) (fun d3 => ?_)
  refine Nar.bind (Nar.guard (divPositive_nar _ _ _ _)) (fun d4 => ?_)
  exact Nar.guard (divPositive_nar _ _ _ _)

theorem elementPass_nar (iv : View) (xs : List View) (r : View) (d : Doms) : Nar d (elementPass iv xs r d) := by
  unfold elementPass
  refine Nar.bind (Nar.setLb _ _ _) (fun d1 => ?_)
  refine Nar.bind (Nar.setUb _ _ _) (fun d2 => ?_)
  refine Nar.bind (Nar.setLb _ _ _) (fun d3 => ?_)
  refine Nar.bind (Nar.setUb _ _ _) (fun d4 => ?_)
  refine Nar.bind (Nar.loop (fun _ => rfl) (fun _ _ _ => rfl) (fun _ d => Nar.ite (Nar.remove _ _ _) (Nar.some d)) _ d4)
    (fun d5 => ?_)
  refine Nar.ite ?_ (Nar.some d5)
  split
  · exact Nar.bind (Nar.setLb _ _ _) (fun d6 => Nar.setUb _ _ _)
  · exact Nar.some d5

theorem clausePass_nar (ls : List Atom) (d : Doms) : Nar d (clausePass ls d) := by
  unfold clausePass
  refine Nar.ite (Nar.some d) ?_
  split
  · exact Nar.none d
  · exact Nar.ite (Nar.postAtom _ _) (Nar.some d)

theorem ttTaskAt_nar (holes : Bool) (cap : Int) (ts : List Task) (t : Int) (k : Task) (d : Doms) :
    Nar d (ttTaskAt holes cap ts t k d) := by
  unfold ttTaskAt
  refine Nar.ite ?_ (Nar.some d)
  refine Nar.bind (Nar.ite (Nar.setLb _ _ _) (Nar.some d)) (fun d1 => ?_)
  refine Nar.bind (Nar.ite (Nar.setUb _ _ _) (Nar.some d1)) (fun d2 => ?_)
  exact Nar.ite (Nar.keep _ _ _) (Nar.some d2)

theorem ttPoints_nar (holes : Bool) (cap : Int) (ts : List Task) (times : List Int) (d : Doms) :
    Nar d (ttPoints holes cap ts times d) := by
  induction times generalizing d with
  | nil => exact Nar.some d
  | cons t r ih =>
    simp only [ttPoints]
    refine Nar.ite (Nar.none d) (Nar.ite ?_ (ih d))
    exact Nar.bind (Nar.loop (fun _ => rfl) (fun _ _ _ => rfl) (ttTaskAt_nar _ _ _ _) ts d) (fun d1 => ih d1)

theorem ttPass_nar (holes : Bool) (ts : List Task) (cap : Int) (d : Doms) : Nar d (ttPass holes ts cap d) := by
  unfold ttPass
  exact Nar.ite (Nar.none d) (ttPoints_nar _ _ _ _ _)

theorem pass_nar (p : PropInst) (d : Doms) : Nar d (p.pass d) := by
  induction p generalizing d with
  | linLe ts c => exact linLePass_nar _ _ _
  | linNe ts c => exact linNePass_nar _ _ _
  | abs s r => exact absPass_nar _ _ _
  | max xs r => exact maxPass_nar _ _ _
  | times a b c => exact timesPass_nar _ _ _ _
  | div a b c => exact divPass_nar _ _ _ _
  | element i xs r => exact elementPass_nar _ _ _ _
  | clause ls => exact clausePass_nar _ _
  | cumulative holes ts cap => exact ttPass_nar _ _ _ _
  | reified r q ih =>
    simp only [PropInst.pass]
    exact Nar.bind (Nar.ite (Nar.postAtom _ _) (Nar.some d)) (fun d1 => Nar.ite (ih d1) (Nar.some d1))

theorem round_nar (ps : List PropInst) (d : Doms) : Nar d (round ps d) :=
  Nar.loop (fun _ => rfl) (fun _ _ _ => rfl) pass_nar ps d

theorem iterate_nar (ps : List PropInst) (fuel : Nat) (d : Doms) : Nar d (iterate ps fuel d) := by
  induction fuel generalizing d with
  | zero => exact Nar.some d
  | succ k ih =>
    simp only [iterate]
    split
    · exact Nar.none d
    · rename_i d1 e
      intro d' e'
      exact Below.step (round_nar ps d d1 e) (Nar.ite (Nar.some d1) (ih d1)) e'

theorem fixpoint_nar (ps : List PropInst) (d : Doms) : Nar d (fixpoint ps d) := by
  unfold fixpoint; exact Nar.ite (Nar.none d) (iterate_nar _ _ _)

theorem initPosts_nar (ps : List PropInst) (d : Doms) : Nar d (initPosts ps d) := by
  refine Nar.loop (fun _ => rfl) (fun _ _ _ => rfl) (fun p d => ?_) ps d
  cases p with
  | reified r q => exact Nar.ite (Nar.postAtom _ _) (Nar.some d)
  | _ => exact Nar.some d

end Pumpkin.Pg
