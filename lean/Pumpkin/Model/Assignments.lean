/-
A model of the domain store `engine/cp/assignments.rs` (`Assignments`, `IntegerDomain`) and of the
trail `basic_types/trail.rs`, statement by statement:

* `IntegerDomain` keeps *chronological update lists* — `lower_bound_updates`, `upper_bound_updates`
  (bound, decision level, trail position), `hole_updates` (value, decision level, whether the removal
  moved a bound) and the map `holes` (value ↦ level, position), which mirrors `hole_updates` and is
  modelled by it (`HU.pos`). The current bound is the last update; a bound which lands on a hole skips
  over it (`update_lower_bound_with_respect_to_holes`), stopping when the domain has become empty.
* `Assignments` pushes one trail entry (predicate, old bounds) per change which is not already true,
  splits `[x == v]` into two bound updates and, on `synchronise`, pops the entries above the new
  decision level and undoes each of them by popping update lists (`undo_trail_entry`).

Lists are newest-first here (the head is Rust's `last()`), trail entries carry the decision level at
which they were pushed (Rust: `trail_delimiter`; `sync k` drops exactly the entries pushed at a level
above `k`). The events raised (`EventSink`) are modelled in `Model/AssignmentsEvents.lean`; the pruned-value
statistic is not modelled.
-/
import Pumpkin.Spec.Basic

namespace Pumpkin.Asg

structure BU where
  bound : Int
  level : Nat
  pos : Nat
deriving DecidableEq, Repr, Inhabited

structure HU where
  value : Int
  level : Nat
  pos : Nat
  trigLb : Bool
  trigUb : Bool
deriving DecidableEq, Repr, Inhabited

structure IDom where
  lbs : List BU
  ubs : List BU
  hus : List HU
deriving DecidableEq, Repr, Inhabited

namespace IDom

/-- `IntegerDomain::new` -/
def new (lb ub : Int) : IDom := ⟨[⟨lb, 0, 0⟩], [⟨ub, 0, 0⟩], []⟩

def lb (d : IDom) : Int := match d.lbs with | b :: _ => b.bound | [] => 0
def ub (d : IDom) : Int := match d.ubs with | b :: _ => b.bound | [] => 0
def initLb (d : IDom) : Int := match d.lbs.getLast? with | some b => b.bound | none => 0
def initUb (d : IDom) : Int := match d.ubs.getLast? with | some b => b.bound | none => 0
def hole (d : IDom) (v : Int) : Bool := d.hus.any (fun h => h.value == v)

/-- `IntegerDomain::contains` -/
def contains (d : IDom) (v : Int) : Bool := decide (d.lb ≤ v) && decide (v ≤ d.ub) && !d.hole v

/-- `verify_consistency` -/
def consistent (d : IDom) : Bool := decide (d.lb ≤ d.ub)

/-- the loop of `update_lower_bound_with_respect_to_holes`; the fuel `ub + 1 - b` suffices
(the premise `ub < b + n` of `skipUp_spec`) -/
def skipUp (d : IDom) (ub : Int) : Nat → Int → Int
  | 0, b => b
  | n + 1, b => if d.hole b && decide (b ≤ ub) then skipUp d ub n (b + 1) else b

def skipDown (d : IDom) (lb : Int) : Nat → Int → Int
  | 0, b => b
  | n + 1, b => if d.hole b && decide (lb ≤ b) then skipDown d lb n (b - 1) else b

/-- `set_lower_bound` -/
def setLb (d : IDom) (k : Int) (level pos : Nat) : IDom :=
  if k ≤ d.lb then d
  else { d with lbs := ⟨d.skipUp d.ub (d.ub + 1 - k).toNat k, level, pos⟩ :: d.lbs }

/-- `set_upper_bound` -/
def setUb (d : IDom) (k : Int) (level pos : Nat) : IDom :=
  if d.ub ≤ k then d
  else { d with ubs := ⟨d.skipDown d.lb (k + 1 - d.lb).toNat k, level, pos⟩ :: d.ubs }

def setTrigLb (d : IDom) : IDom :=
  match d.hus with
  | h :: r => { d with hus := { h with trigLb := true } :: r }
  | [] => d

def setTrigUb (d : IDom) : IDom :=
  match d.hus with
  | h :: r => { d with hus := { h with trigUb := true } :: r }
  | [] => d

/-- `remove_value` -/
def removeValue (d : IDom) (v : Int) (level pos : Nat) : IDom :=
  if v < d.lb ∨ d.ub < v ∨ d.hole v then d
  else
    let d1 : IDom := { d with hus := ⟨v, level, pos, false, false⟩ :: d.hus }
    let d2 := if d1.lb = v then (d1.setLb (v + 1) level pos).setTrigLb else d1
    if d2.ub = v then (d2.setUb (v - 1) level pos).setTrigUb else d2

/-- `undo_trail_entry` (the `Equal` arm is `unreachable!()`: modelled as no change) -/
def undo (d : IDom) : Atom → IDom
  | .ge _ _ => { d with lbs := d.lbs.tail }
  | .le _ _ => { d with ubs := d.ubs.tail }
  | .ne _ _ =>
    match d.hus with
    | [] => d
    | h :: r =>
      { lbs := if h.trigLb then d.lbs.tail else d.lbs
        ubs := if h.trigUb then d.ubs.tail else d.ubs
        hus := r }
  | .eq _ _ => d

/-- `lower_bound_at_trail_position`: the newest update made at or before the position -/
def lbAt (d : IDom) (p : Nat) : Int :=
  match d.lbs.find? (fun u => decide (u.pos ≤ p)) with | some u => u.bound | none => 0
def ubAt (d : IDom) (p : Nat) : Int :=
  match d.ubs.find? (fun u => decide (u.pos ≤ p)) with | some u => u.bound | none => 0
def containsAt (d : IDom) (v : Int) (p : Nat) : Bool :=
  if d.lbAt p > v ∨ d.ubAt p < v then false
  else match d.hus.find? (fun h => h.value == v) with
    | some h => !decide (h.pos ≤ p)
    | none => true

/-- `get_update_info` for bounds: the *oldest* update which reaches the bound -/
def lbInfo (d : IDom) (k : Int) : Option (Nat × Nat) :=
  (d.lbs.reverse.find? (fun u => decide (k ≤ u.bound))).map (fun u => (u.level, u.pos))
def ubInfo (d : IDom) (k : Int) : Option (Nat × Nat) :=
  (d.ubs.reverse.find? (fun u => decide (u.bound ≤ k))).map (fun u => (u.level, u.pos))

def updateInfo (d : IDom) : Atom → Option (Nat × Nat)
  | .ge _ k => d.lbInfo k
  | .le _ k => d.ubInfo k
  | .ne _ k =>
    match d.hus.find? (fun h => h.value == k) with
    | some h => some (h.level, h.pos)
    | none => match d.lbInfo (k + 1) with
      | some r => some r
      | none => d.ubInfo (k - 1)
  | .eq _ k =>
    match d.lbInfo k with
    | some l => (d.ubInfo k).map (fun u => if l.2 > u.2 then l else u)
    | none => none

end IDom

structure Entry where
  atom : Atom
  oldLb : Int
  oldUb : Int
  level : Nat
  grow : Bool
deriving DecidableEq, Repr, Inhabited

structure St where
  doms : List IDom
  trail : List Entry
  level : Nat
deriving DecidableEq, Repr, Inhabited

namespace St

def empty : St := ⟨[], [], 0⟩

def dom (s : St) (x : Nat) : IDom := s.doms.getD x default
def lb (s : St) (x : Nat) : Int := (s.dom x).lb
def ub (s : St) (x : Nat) : Int := (s.dom x).ub
def contains (s : St) (x : Nat) (v : Int) : Bool := (s.dom x).contains v
def setDom (s : St) (x : Nat) (d : IDom) : St := { s with doms := s.doms.set x d }

/-- `grow` (only at the root; the harness respects the `pumpkin_assert_simple`) -/
def grow (s : St) (lo hi : Int) : St :=
  let x := s.doms.length
  { s with
    doms := s.doms ++ [IDom.new lo hi]
    trail := ⟨.le x hi, lo, hi, s.level, true⟩ :: ⟨.ge x lo, lo, hi, s.level, true⟩ :: s.trail }

/-- `Assignments::default`: the dummy variable 0 with domain {1} -/
def init : St := empty.grow 1 1

def entryFor (s : St) (p : Atom) : Entry := ⟨p, s.lb p.var, s.ub p.var, s.level, false⟩

/-- what a trail entry does to its domain (the `IntegerDomain` call made by `tighten_*` / `remove_*`) -/
def applyAtom (d : IDom) (p : Atom) (level pos : Nat) : IDom :=
  match p with
  | .ge _ k => d.setLb k level pos
  | .le _ k => d.setUb k level pos
  | .ne _ k => d.removeValue k level pos
  | .eq _ _ => d

/-- is the predicate a change (otherwise `tighten_*` / `remove_*` return without touching anything) -/
def changes (d : IDom) : Atom → Bool
  | .ge _ k => decide (d.lb < k)
  | .le _ k => decide (k < d.ub)
  | .ne _ k => d.contains k
  | .eq _ _ => false

/-- `tighten_lower_bound`, `tighten_upper_bound`, `remove_value_from_domain` -/
def postSimple (s : St) (p : Atom) : St :=
  let d := s.dom p.var
  if changes d p then
    { (s.setDom p.var (applyAtom d p s.level s.trail.length)) with trail := s.entryFor p :: s.trail }
  else s

/-- `post_predicate`; the Boolean is `Ok` (true) / `Err(EmptyDomain)` (false). `make_assignment`
returns early when the lower-bound half has emptied the domain. -/
def post (s : St) (p : Atom) : St × Bool :=
  match p with
  | .eq x v =>
    let s1 := if s.lb x < v then s.postSimple (.ge x v) else s
    if s.lb x < v ∧ !(s1.dom x).consistent then (s1, false)
    else
      let s2 := if s1.ub x > v then s1.postSimple (.le x v) else s1
      (s2, (s2.dom x).consistent)
  | p => let s' := s.postSimple p; (s', (s'.dom p.var).consistent)

def newLevel (s : St) : St := { s with level := s.level + 1 }

/-- pop and undo the entries pushed above level `k` -/
def unwind (k : Nat) : List Entry → List IDom → List Entry × List IDom
  | [], ds => ([], ds)
  | e :: r, ds =>
    if k < e.level then unwind k r (ds.set e.atom.var ((ds.getD e.atom.var default).undo e.atom))
    else (e :: r, ds)

/-- `synchronise` -/
def sync (s : St) (k : Nat) : St :=
  let (t, ds) := unwind k s.trail s.doms
  ⟨ds, t, k⟩

/-- the list `synchronise` returns: variables which were fixed right before one of the popped entries
was undone and are not fixed right after (with the value they were fixed to); newest entry first -/
def unfixed (k : Nat) : List Entry → List IDom → List (Nat × Int)
  | [], _ => []
  | e :: r, ds =>
    if k < e.level then
      let d := ds.getD e.atom.var default
      let d' := d.undo e.atom
      let rest := unfixed k r (ds.set e.atom.var d')
      if d.lb = d.ub ∧ d'.lb ≠ d'.ub then (e.atom.var, d.lb) :: rest else rest
    else []

/-- `evaluate_predicate` -/
def evaluate (s : St) : Atom → Option Bool
  | .ge x k => if s.lb x ≥ k then some true else if s.ub x < k then some false else none
  | .le x k => if s.ub x ≤ k then some true else if s.lb x > k then some false else none
  | .ne x k => if !s.contains x k then some true else if s.lb x = s.ub x then some false else none
  | .eq x k => if !s.contains x k then some false else if s.lb x = s.ub x then some true else none

inductive Op where
  | grow (lo hi : Int)
  | post (p : Atom)
  | newLevel
  | sync (k : Nat)
deriving Repr, DecidableEq

/-- The operations as the solver may issue them: variables are created at the root only, predicates
are over existing variables, `sync` goes strictly down. (Rust asserts the first and the third.) -/
def Op.ok (s : St) : Op → Bool
  | .grow lo hi => s.level == 0 && decide (lo ≤ hi)
  | .post p => decide (p.var < s.doms.length)
  | .newLevel => true
  | .sync k => decide (k < s.level)

def step (s : St) : Op → St
  | .grow lo hi => s.grow lo hi
  | .post p => (s.post p).1
  | .newLevel => s.newLevel
  | .sync k => s.sync k

/-- run a sequence of operations, skipping the ones the API forbids in the current state -/
def run (s : St) : List Op → St
  | [] => s
  | o :: r => if o.ok s then run (step s o) r else run s r

end St

end Pumpkin.Asg
