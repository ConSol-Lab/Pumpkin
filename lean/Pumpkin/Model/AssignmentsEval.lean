/-
`evaluate_predicate` decides a predicate exactly when all values of the (non-empty) domain agree on it.
-/
import Pumpkin.Model.AssignmentsState

namespace Pumpkin.Asg

open IDom

/-! `evaluate_predicate` tests for one answer, then for the other -/

private theorem trueFirst_iff {c c' : Prop} [Decidable c] [Decidable c'] :
    (if c then some true else if c' then some false else none) = some true ↔ c := by
  by_cases h : c <;> by_cases h' : c' <;> simp [h, h']

private theorem falseFirst_iff {c c' : Prop} [Decidable c] [Decidable c'] :
    (if c then some false else if c' then some true else none) = some true ↔ ¬ c ∧ c' := by
  by_cases h : c <;> by_cases h' : c' <;> simp [h, h']

private theorem tests_swap {c c' : Prop} [Decidable c] [Decidable c'] (h : ¬ (c ∧ c')) :
    (if c' then some true else if c then some false else none) =
      (if c then some true else if c' then some false else none).map (!·) := by
  by_cases h1 : c <;> by_cases h2 : c' <;> simp [h1, h2]
  exact h ⟨h1, h2⟩

/-- so that "decided false" need not be studied on its own -/
theorem evaluate_neg (s : St) (p : Atom) (hne : s.lb p.var ≤ s.ub p.var) :
    s.evaluate p.neg = (s.evaluate p).map (!·) := by
  cases p with
  | ge x k =>
    simp only [Atom.neg, St.evaluate, gt_iff_lt, Int.le_sub_one_iff, Int.sub_one_lt_iff]
    -- `c` is `k ≤ lb`, `c'` is `ub < k`: both would give `k ≤ lb ≤ ub < k`
    exact tests_swap fun h => Int.not_lt.2 (Int.le_trans h.1 hne) h.2
  | le x k =>
    simp only [Atom.neg, St.evaluate, ge_iff_le, Int.add_one_le_iff, Int.lt_add_one_iff]
    -- `c` is `ub ≤ k`, `c'` is `k < lb`
    exact tests_swap fun h => Int.not_lt.2 (Int.le_trans hne h.1) h.2
  | ne x k =>
    simp only [Atom.neg, St.evaluate]
    cases s.contains x k <;> by_cases h2 : s.lb x = s.ub x <;> simp [h2]
  | eq x k =>
    simp only [Atom.neg, St.evaluate]
    cases s.contains x k <;> by_cases h2 : s.lb x = s.ub x <;> simp [h2]

/-- the bounds of a non-empty tight domain are its least and its greatest value: that is all
`evaluate_predicate` looks at -/
theorem evaluate_true_iff (s : St) (p : Atom) (ht : (s.dom p.var).Tight) (hne : s.lb p.var ≤ s.ub p.var) :
    s.evaluate p = some true ↔ ∀ v, s.contains p.var v = true → p.holdsVal v = true := by
  obtain ⟨hl, hu⟩ := tight_bounds_mem _ ht hne
  simp only [St.contains, contains_iff]
  cases p with
  | ge x k =>
    simp only [Atom.holdsVal, decide_eq_true_eq]
    exact trueFirst_iff.trans ⟨fun h v hv => Int.le_trans h hv.1, fun h => h _ hl⟩
  | le x k =>
    simp only [Atom.holdsVal, decide_eq_true_eq]
    exact trueFirst_iff.trans ⟨fun h v hv => Int.le_trans hv.2.1 h, fun h => h _ hu⟩
  | ne x k =>
    simp only [Atom.holdsVal, decide_eq_true_eq]
    refine trueFirst_iff.trans ?_
    rw [Bool.not_eq_true', ← Bool.not_eq_true, St.contains, contains_iff]
    -- goal: `¬(s.dom x).mem k ↔ ∀ v, (s.dom x).mem v → v ≠ k`
    exact ⟨fun h v hv hvk => h (hvk ▸ hv), fun h hk => h k hk rfl⟩
  | eq x k =>
    simp only [Atom.holdsVal, decide_eq_true_eq]
    refine falseFirst_iff.trans ?_
    rw [Bool.not_eq_true', Bool.not_eq_false, St.contains, contains_iff]
    constructor
    · rintro ⟨hk, he⟩ v hv
      -- `v ≤ ub = lb ≤ k` and `k ≤ ub = lb ≤ v`
      exact Int.le_antisymm (Int.le_trans hv.2.1 (Int.le_trans (Int.le_of_eq he.symm) hk.1))
        (Int.le_trans hk.2.1 (Int.le_trans (Int.le_of_eq he.symm) hv.1))
    · intro h
      have h1 := h _ hl
      exact ⟨h1 ▸ hl, h1.trans (h _ hu).symm⟩

theorem evaluate_false_iff (s : St) (p : Atom) (ht : (s.dom p.var).Tight) (hne : s.lb p.var ≤ s.ub p.var) :
    s.evaluate p = some false ↔ ∀ v, s.contains p.var v = true → p.holdsVal v = false := by
  have h := evaluate_true_iff s p.neg (by rw [Atom.neg_var]; exact ht) (by rw [Atom.neg_var]; exact hne)
  rw [evaluate_neg s p hne, Atom.neg_var] at h
  simp only [Atom.neg_holdsVal, Bool.not_eq_true'] at h
  rw [← h]
  cases s.evaluate p with
  | none => simp
  | some b => cases b <;> simp

theorem evaluate_none_iff_of_tight (s : St) (p : Atom) (ht : (s.dom p.var).Tight)
    (hne : s.lb p.var ≤ s.ub p.var) :
    s.evaluate p = none ↔
      (∃ v, s.contains p.var v = true ∧ p.holdsVal v = true) ∧
      (∃ v, s.contains p.var v = true ∧ p.holdsVal v = false) := by
  have hn : s.evaluate p = none ↔ ¬ s.evaluate p = some false ∧ ¬ s.evaluate p = some true := by
    cases s.evaluate p with
    | none => simp
    | some b => cases b <;> simp
  rw [hn, evaluate_true_iff _ p ht hne, evaluate_false_iff _ p ht hne]
  simp only [Classical.not_forall, exists_prop, Bool.not_eq_true, Bool.not_eq_false]

/-- `Branching.Undecided` is the same condition on a sorted list of values; no theorem connects the two. -/
theorem evaluate_none_iff (ops : List St.Op) (p : Atom)
    (hx : p.var < (St.run St.empty ops).doms.length)
    (hne : (St.run St.empty ops).lb p.var ≤ (St.run St.empty ops).ub p.var) :
    (St.run St.empty ops).evaluate p = none ↔
      (∃ v, (St.run St.empty ops).contains p.var v = true ∧ p.holdsVal v = true) ∧
      (∃ v, (St.run St.empty ops).contains p.var v = true ∧ p.holdsVal v = false) :=
  evaluate_none_iff_of_tight _ p ((inv_run ops _ inv_empty).tight hx) hne

end Pumpkin.Asg
