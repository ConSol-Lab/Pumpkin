/-
Domain events (`IntDomainEvent`, `EventSink`): which events a change of the domain store raises.
Propagators are woken by these events only, so every change of a bound and every fixing must raise its
event (`events_complete`).
-/
import Pumpkin.Model.AssignmentsSound

namespace Pumpkin.Asg

open IDom St

inductive Ev where
  | assign | lowerBound | upperBound | removal
deriving DecidableEq, Repr, Inhabited

/-- the events raised by `set_lower_bound` / `set_upper_bound` / `remove_value` when the predicate is a
real change of `d` and `d'` is the domain afterwards (the sink ignores duplicates: a set). Rust
`remove_value` tests for `Assign` inside either bound move and at its end, the model once, on `d'`: the
other bound moves after a test only if both bounds of `d` were `v`, and then they cross and all tests fail. -/
def evAtom (d d' : IDom) : Atom → List Ev
  | .ge _ _ => [.lowerBound] ++ (if d'.lb = d'.ub then [.assign] else [])
  | .le _ _ => [.upperBound] ++ (if d'.lb = d'.ub then [.assign] else [])
  | .ne _ v => [.removal] ++ (if d.lb = v then [.lowerBound] else []) ++ (if d.ub = v then [.upperBound] else [])
      ++ (if d'.lb = d'.ub then [.assign] else [])
  | .eq _ _ => []

/-- events of `tighten_lower_bound` / `tighten_upper_bound` / `remove_value_from_domain` -/
def simpleEvents (s : St) (p : Atom) : List (Nat × Ev) :=
  if changes (s.dom p.var) p then
    (evAtom (s.dom p.var) ((s.postSimple p).dom p.var) p).map (fun e => (p.var, e))
  else []

/-- events of `post_predicate` (an equality is two bound updates; the second is skipped when the first
has emptied the domain) -/
def postEvents (s : St) (p : Atom) : List (Nat × Ev) :=
  match p with
  | .eq x v =>
    let e1 := if s.lb x < v then simpleEvents s (.ge x v) else []
    let s1 := if s.lb x < v then s.postSimple (.ge x v) else s
    if s.lb x < v ∧ !(s1.dom x).consistent then e1
    else e1 ++ (if s1.ub x > v then simpleEvents s1 (.le x v) else [])
  | p => simpleEvents s p

/-- **Every change of a bound is reported** (`C01.store_events_complete` says what is and is not claimed).
`simpleEvents` takes `evAtom` at `(s.postSimple p).dom p.var`, which is this
`applyAtom ..` by `postSimple_dom` (`Model/AssignmentsState.lean`, for `p.var < s.doms.length`); no lemma puts the two together. -/
theorem events_complete (d : IDom) (a : Atom) (l pos : Nat) (hc : changes d a = true) :
    (Ev.lowerBound ∈ evAtom d (applyAtom d a l pos) a ↔ (applyAtom d a l pos).lb ≠ d.lb) ∧
    (Ev.upperBound ∈ evAtom d (applyAtom d a l pos) a ↔ (applyAtom d a l pos).ub ≠ d.ub) ∧
    (Ev.assign ∈ evAtom d (applyAtom d a l pos) a ↔ (applyAtom d a l pos).lb = (applyAtom d a l pos).ub) ∧
    evAtom d (applyAtom d a l pos) a ≠ [] := by
  cases a with
  | ge x k =>
    simp only [changes, decide_eq_true_eq] at hc
    have h1 : k ≤ (d.setLb k l pos).lb := by
      rcases setLb_cases d k l pos with ⟨hk, _⟩ | ⟨_, b, e, h1, _⟩
      · exact absurd hc (Int.not_lt.2 hk)
      · rw [e]; exact h1
    simp only [applyAtom, evAtom, List.mem_append, List.mem_singleton, List.mem_ite_nil_right, setLb_ub]
    refine ⟨?_, ?_, ?_, by simp⟩
    · -- `d.lb < k ≤` the new bound: it has moved
      exact ⟨fun _ => Int.ne_of_gt (Int.lt_of_lt_of_le hc h1), fun _ => .inl trivial⟩
    · simp
    · simp
  | le x k =>
    simp only [changes, decide_eq_true_eq] at hc
    have h1 : (d.setUb k l pos).ub ≤ k := by
      rcases setUb_cases d k l pos with ⟨hk, _⟩ | ⟨_, b, e, h1, _⟩
      · exact absurd hc (Int.not_lt.2 hk)
      · rw [e]; exact h1
    simp only [applyAtom, evAtom, List.mem_append, List.mem_singleton, List.mem_ite_nil_right, setUb_lb]
    refine ⟨?_, ?_, ?_, by simp⟩
    · simp
    · exact ⟨fun _ => Int.ne_of_lt (Int.lt_of_le_of_lt h1 hc), fun _ => .inl trivial⟩
    · simp
  | ne x v =>
    obtain ⟨hl, hu⟩ := removeValue_bounds d v l pos ((contains_iff d v).1 hc) rfl
    simp only [applyAtom, evAtom, List.mem_append, List.mem_singleton, List.mem_ite_nil_right]
    refine ⟨?_, ?_, ?_, by simp⟩
    · by_cases h : d.lb = v
      · -- the bound sat on `v` and is now above it
        rw [if_pos h] at hl
        exact ⟨fun _ e => Int.ne_of_gt hl.1 (e.trans h), fun _ => .inl (.inl (.inr ⟨h, trivial⟩))⟩
      · rw [if_neg h] at hl; simp [h, hl]
    · by_cases h : d.ub = v
      · rw [if_pos h] at hu
        exact ⟨fun _ e => Int.ne_of_lt hu.1 (e.trans h), fun _ => .inl (.inr ⟨h, trivial⟩)⟩
      · rw [if_neg h] at hu; simp [h, hu]
    · by_cases h : (d.removeValue v l pos).lb = (d.removeValue v l pos).ub <;> simp [h]
  | eq x k => simp [changes] at hc

end Pumpkin.Asg
