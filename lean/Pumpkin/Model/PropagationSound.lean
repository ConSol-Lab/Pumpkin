/-
Soundness of the propagator models of `Model/Propagation.lean`: a pass keeps every assignment which lies in the
current domains and satisfies the propagator's constraint (`Ok n a r`: `r` is `some d'` with `a` still inside
`d'`), and so reports a conflict (`none`) only when there is none.

Every write of a pass is a `keep`, sound when the value of the written view under `a` passes the filter
(`keep_ok`); the thresholds come from bounds read off the domains, which enclose the value of the read view
(`lb_le`, `le_ub`). What is left for each propagator is integer arithmetic — that its rule is valid for a value
between the bounds — stated over integers, apart from the pass.
-/
import Pumpkin.Model.Propagation
import Pumpkin.Spec.Lists

namespace Pumpkin.Pg

open Pumpkin.AtomRup (inDoms_restrict val_mem_of_inDoms)

theorem minL_le {l : List Int} {v : Int} (h : v ∈ l) : minL l ≤ v :=
  match l, h with
  | x :: xs, h => (foldl_min_spec xs x).2 v h

theorem le_maxL {l : List Int} {v : Int} (h : v ∈ l) : v ≤ maxL l :=
  match l, h with
  | x :: xs, h => (foldl_max_spec xs x).2 v h

theorem minL_mem {l : List Int} (h : l ≠ []) : minL l ∈ l :=
  match l, h with
  | x :: xs, _ => (foldl_min_spec xs x).1

theorem maxL_mem {l : List Int} (h : l ≠ []) : maxL l ∈ l :=
  match l, h with
  | x :: xs, _ => (foldl_max_spec xs x).1

/-! `inDoms d a` gives `d.length = a.length` (`inDoms_length`): the number of variables is `a.length` below, the
last conjunct of `Ok` is redundant, and theorems with a free `n` and `d.length = n` begin with `length_eq`. -/

theorem vapp_val (w : View) (a : List Int) : vapp w (val a w.var) = w.eval a := rfl

theorem eval_mem_vals {d : Doms} {a : List Int} (h : inDoms d a = true) {w : View} (hw : w.var < a.length) :
    w.eval a ∈ vals d w :=
  List.mem_map.2 ⟨_, val_mem_of_inDoms h (inDoms_length h ▸ hw), vapp_val w a⟩

theorem lb_le {d : Doms} {a : List Int} (h : inDoms d a = true) {w : View} (hw : w.var < a.length) :
    lb d w ≤ w.eval a := minL_le (eval_mem_vals h hw)

theorem le_ub {d : Doms} {a : List Int} (h : inDoms d a = true) {w : View} (hw : w.var < a.length) :
    w.eval a ≤ ub d w := le_maxL (eval_mem_vals h hw)

theorem lb_mem {d : Doms} {a : List Int} (h : inDoms d a = true) {w : View} (hw : w.var < a.length) :
    lb d w ∈ vals d w :=
  minL_mem (List.ne_nil_of_mem (eval_mem_vals h hw))

theorem ub_mem {d : Doms} {a : List Int} (h : inDoms d a = true) {w : View} (hw : w.var < a.length) :
    ub d w ∈ vals d w :=
  maxL_mem (List.ne_nil_of_mem (eval_mem_vals h hw))

theorem eq_of_fixed {d : Doms} {a : List Int} (h : inDoms d a = true) {w : View} (hw : w.var < a.length)
    (hf : fixed d w = true) : w.eval a = lb d w :=
  Int.le_antisymm (beq_iff_eq.1 hf ▸ le_ub h hw) (lb_le h hw)  -- `eval ≤ ub = lb`

def Ok (n : Nat) (a : List Int) (r : Option Doms) : Prop :=
  ∃ d', r = some d' ∧ inDoms d' a = true ∧ d'.length = n

theorem Ok.some {a : List Int} {d : Doms} (h : inDoms d a = true) : Ok a.length a (some d) :=
  ⟨d, rfl, h, (inDoms_length h).symm⟩

theorem Ok.bind {n : Nat} {a : List Int} {r : Option Doms} {g : Doms → Option Doms} (hr : Ok n a r)
    (hg : ∀ d', inDoms d' a = true → Ok n a (g d')) : Ok n a (r.bind g) := by
  obtain ⟨d', rfl, h1, _⟩ := hr
  exact hg d' h1

theorem Ok.ite {n : Nat} {a : List Int} {c : Prop} [Decidable c] {r s : Option Doms}
    (hr : c → Ok n a r) (hs : ¬c → Ok n a s) : Ok n a (if c then r else s) := by
  split
  · exact hr ‹_›
  · exact hs ‹_›

theorem Ok.loop {α : Type} {a : List Int} {f : List α → Doms → Option Doms} {step : α → Doms → Option Doms}
    (hnil : ∀ d, f [] d = Option.some d) (hcons : ∀ x r d, f (x :: r) d = (step x d).bind (f r)) (l : List α)
    (hstep : ∀ x ∈ l, ∀ d, inDoms d a = true → Ok a.length a (step x d)) (d : Doms) (h : inDoms d a = true) :
    Ok a.length a (f l d) := by
  induction l generalizing d with
  | nil => exact hnil d ▸ Ok.some h
  | cons x r ih =>
    exact hcons x r d ▸ Ok.bind (hstep x (List.mem_cons_self ..) d h)
      (ih fun y hy => hstep y (List.mem_cons_of_mem _ hy))

theorem keep_ok {d : Doms} {a : List Int} (h : inDoms d a = true) {w : View} (hw : w.var < a.length)
    {f : Int → Bool} (hf : f (w.eval a) = true) : Ok a.length a (keep d w f) := by
  have hin := inDoms_restrict h w.var (fun x => f (vapp w x)) hf
  have hmem := val_mem_of_inDoms hin (x := w.var) (inDoms_length hin ▸ hw)
  unfold keep
  rw [if_neg (by rw [List.isEmpty_iff]; exact List.ne_nil_of_mem hmem)]
  exact Ok.some hin

theorem setLb_ok {d : Doms} {a : List Int} (h : inDoms d a = true) {w : View} (hw : w.var < a.length) {v : Int}
    (hv : v ≤ w.eval a) : Ok a.length a (setLb d w v) :=
  keep_ok h hw (decide_eq_true hv)

theorem setUb_ok {d : Doms} {a : List Int} (h : inDoms d a = true) {w : View} (hw : w.var < a.length) {v : Int}
    (hv : w.eval a ≤ v) : Ok a.length a (setUb d w v) :=
  keep_ok h hw (decide_eq_true hv)

theorem remove_ok {d : Doms} {a : List Int} (h : inDoms d a = true) {w : View} (hw : w.var < a.length) {v : Int}
    (hv : w.eval a ≠ v) : Ok a.length a (remove d w v) :=
  keep_ok h hw (decide_eq_true hv)

theorem postAtom_ok {d : Doms} {a : List Int} (h : inDoms d a = true) {p : Atom} (hw : p.var < a.length)
    (hp : p.holds a = true) : Ok a.length a (postAtom d p) := by
  exact keep_ok h (w := View.ofVar p.var) hw (by rwa [View.ofVar_eval])

theorem guard_ok {a : List Int} {b : Bool} {f : Doms → Option Doms} {d : Doms} (h : inDoms d a = true)
    (hf : b = true → Ok a.length a (f d)) : Ok a.length a (guard b f d) := by
  unfold guard
  cases b with
  | true => exact hf rfl
  | false => exact Ok.some h

theorem gLb_ok {a : List Int} {d : Doms} (h : inDoms d a = true) {w : View} (hw : w.var < a.length) {b : Bool}
    {v : Int} (hv : b = true → v ≤ w.eval a) : Ok a.length a (guard b (fun d => setLb d w v) d) :=
  guard_ok h fun hb => setLb_ok h hw (hv hb)

theorem gUb_ok {a : List Int} {d : Doms} (h : inDoms d a = true) {w : View} (hw : w.var < a.length) {b : Bool}
    {v : Int} (hv : b = true → w.eval a ≤ v) : Ok a.length a (guard b (fun d => setUb d w v) d) :=
  guard_ok h fun hb => setUb_ok h hw (hv hb)

theorem and_of_decide {p q : Prop} [Decidable p] [Decidable q] (h : (decide p && decide q) = true) : p ∧ q := by
  simpa using h

theorem length_eq {n : Nat} {d : Doms} {a : List Int} (h : inDoms d a = true) (hl : d.length = n) : n = a.length :=
  hl ▸ (inDoms_length h).symm

-- `0 ≤ k.use` is what `CumSem.cumulative_sat_iff` needs, not a matter of variables in range
def tasksWf (n : Nat) (ts : List Task) : Prop := ∀ k ∈ ts, k.start.var < n ∧ 0 ≤ k.use

def PropInst.Wf (n : Nat) : PropInst → Prop
  | .linLe ts _ => ∀ t ∈ ts, t.var < n
  | .linNe ts _ => ∀ t ∈ ts, t.var < n
  | .abs s r => s.var < n ∧ r.var < n
  | .max xs r => (∀ t ∈ xs, t.var < n) ∧ r.var < n
  | .times a b c => a.var < n ∧ b.var < n ∧ c.var < n
  | .div a b c => a.var < n ∧ b.var < n ∧ c.var < n
  | .element i xs r => i.var < n ∧ (∀ t ∈ xs, t.var < n) ∧ r.var < n
  | .clause ls => ∀ p ∈ ls, p.var < n
  | .cumulative _ ts _ => tasksWf n ts
  | .reified r p => r.var < n ∧ p.Wf n

theorem sumLb_le {d : Doms} {a : List Int} (h : inDoms d a = true) (ts : List View)
    (hw : ∀ t ∈ ts, t.var < a.length) : sumLb d ts ≤ sumViews ts a :=
  sumL_map_le ts (lb d) (·.eval a) fun t ht => lb_le h (hw t ht)

theorem slack {d : Doms} {a : List Int} (h : inDoms d a = true) (ts : List View)
    (hw : ∀ t ∈ ts, t.var < a.length) {t : View} (ht : t ∈ ts) :
    sumLb d ts + (t.eval a - lb d t) ≤ sumViews ts a :=
  -- at `t`: `lb d t + (t.eval a - lb d t) = t.eval a`
  sumL_map_add_le ts (lb d) (·.eval a) ht _ (fun j hj => lb_le h (hw j hj)) (Int.le_of_eq (by omega))

theorem linLePass_ok {a : List Int} (ts : List View) (c : Int) (hw : ∀ t ∈ ts, t.var < a.length)
    (hsat : sumViews ts a ≤ c) (d : Doms) (h : inDoms d a = true) : Ok a.length a (linLePass ts c d) := by
  unfold linLePass linLeInconsistent
  rw [if_neg (by rw [decide_eq_true_eq]; exact Int.not_lt.2 (Int.le_trans (sumLb_le h ts hw) hsat))]
  refine Ok.loop (fun _ => rfl) (fun _ _ _ => rfl) ts (fun t ht d h => ?_) d h
  have hs := slack h ts hw ht  -- `sumLb + (t - lb t) ≤ sum ≤ c`, so `t.eval a ≤ c - (sumLb - lb t)`
  exact Ok.ite (fun _ => setUb_ok h (hw t ht) (by omega)) fun _ => Ok.some h

theorem fixedSum_eq {d : Doms} {a : List Int} (h : inDoms d a = true) (ts : List View)
    (hw : ∀ t ∈ ts, t.var < a.length) :
    fixedSum d ts = sumL ((ts.filter (fixed d)).map (·.eval a)) :=
  congrArg sumL (List.map_congr_left fun t ht =>
    (eq_of_fixed h (hw t (List.mem_filter.1 ht).1) (List.mem_filter.1 ht).2).symm)

theorem sum_split {d : Doms} {a : List Int} (h : inDoms d a = true) (ts : List View)
    (hw : ∀ t ∈ ts, t.var < a.length) :
    sumViews ts a = fixedSum d ts + sumL ((ts.filter (fun t => !fixed d t)).map (·.eval a)) := by
  rw [fixedSum_eq h ts hw]
  clear hw
  induction ts with
  | nil => rfl
  | cons t ts ih =>
    rw [sumViews_cons, ih]
    cases hp : fixed d t
    · -- `t` joins the second sum
      rw [List.filter_cons_of_neg (Bool.not_eq_true _ ▸ hp), List.filter_cons_of_pos (by rw [hp]; rfl), List.map_cons, sumL_cons]
      exact Int.add_left_comm ..
    · -- `t` joins the first sum
      rw [List.filter_cons_of_pos hp, List.filter_cons_of_neg (by rw [hp]; exact Bool.false_ne_true), List.map_cons, sumL_cons]
      exact (Int.add_assoc ..).symm

theorem linNePass_ok {a : List Int} (ts : List View) (c : Int) (hw : ∀ t ∈ ts, t.var < a.length)
    (hsat : sumViews ts a ≠ c) (d : Doms) (h : inDoms d a = true) : Ok a.length a (linNePass ts c d) := by
  have hsplit := sum_split h ts hw
  have hlen : (ts.filter (fixed d)).length + (ts.filter fun t => !fixed d t).length = ts.length := by
    simpa [List.countP_eq_length_filter] using (List.length_eq_countP_add_countP (fixed d) (l := ts)).symm
  -- `g1 : ¬nFixed + 1 < ts.length`; `g2 : nFixed + 1 = ts.length`, then its negation; `g3 : fixedSum d ts = c`
  refine Ok.ite (fun _ => Ok.some h) fun g1 => Ok.ite (fun g2 => ?_) fun g2 => Ok.ite (fun g3 => ?_) fun _ => Ok.some h
  · -- `nFixed + nUnfixed = ts.length = nFixed + 1`: a single `t` is not fixed, the sum is the fixed sum plus `t`
    obtain ⟨t, ht⟩ := List.length_eq_one_iff.1 (Nat.add_left_cancel (hlen.trans g2.symm))
    have hfind : ts.find? (fun t => !fixed d t) = some t := by rw [← List.head?_filter, ht]; rfl
    rw [ht, List.map_singleton, sumL_cons, sumL_nil, Int.add_zero] at hsplit
    rw [hfind]
    exact remove_ok h (hw t (List.mem_of_find?_eq_some hfind)) fun e =>
      hsat (by rw [hsplit, e, Int.add_comm, Int.sub_add_cancel])
  · -- every term is fixed: the sum is the fixed sum
    rw [List.eq_nil_of_length_eq_zero (by omega : (ts.filter fun t => !fixed d t).length = 0), List.map_nil, sumL_nil,
      Int.add_zero, g3] at hsplit
    exact absurd hsplit hsat

theorem natAbs_iabs (x : Int) : (x.natAbs : Int) = iabs x := by
  unfold iabs; split <;> omega

theorem iabs_cases (x : Int) : (x < 0 ∧ iabs x = -x) ∨ (0 ≤ x ∧ iabs x = x) := by
  unfold iabs; split <;> omega

theorem le_iabs (x : Int) : x ≤ iabs x ∧ -x ≤ iabs x := by
  unfold iabs; split <;> omega

theorem iabs_nonneg (x : Int) : 0 ≤ iabs x := by
  have := le_iabs x; omega

/-- `IntAbs` towards the result, `S` the value of the argument -/
theorem abs_fwd {S lo hi : Int} (h1 : lo ≤ S) (h2 : S ≤ hi) :
    iabs S ≤ max (iabs lo) (iabs hi) ∧ (0 < lo → lo ≤ iabs S) ∧ (hi < 0 → iabs hi ≤ iabs S) := by
  obtain ⟨s1, s2⟩ := le_iabs S
  refine ⟨?_, fun _ => Int.le_trans h1 s1, fun c => ?_⟩
  · -- `S ≤ hi ≤ |hi|` and `-S ≤ -lo ≤ |lo|`
    rcases iabs_cases S with ⟨_, e⟩ | ⟨_, e⟩ <;> rw [e]
    · exact Int.le_trans (Int.neg_le_neg h1) (Int.le_trans (le_iabs lo).2 (Int.le_max_left ..))
    · exact Int.le_trans h2 (Int.le_trans (le_iabs hi).1 (Int.le_max_right ..))
  · rw [iabs, if_pos c]; exact Int.le_trans (Int.neg_le_neg h2) s2

/-- `IntAbs` towards the argument -/
theorem abs_bwd {S lo hi rlo rhi : Int} (h1 : lo ≤ S) (h2 : S ≤ hi) (h3 : rlo ≤ iabs S) (h4 : iabs S ≤ rhi) :
    -rhi ≤ S ∧ S ≤ rhi ∧ (hi ≤ 0 → S ≤ -rlo) ∧ (0 ≤ lo → rlo ≤ S) := by
  have := iabs_cases S
  omega

theorem absPass_ok {a : List Int} (s r : View) (hs : s.var < a.length) (hr : r.var < a.length)
    (hsat : ((s.eval a).natAbs : Int) = r.eval a) (d : Doms) (h : inDoms d a = true) :
    Ok a.length a (absPass s r d) := by
  unfold absPass
  rw [natAbs_iabs] at hsat
  refine Ok.bind (setLb_ok h hr (hsat ▸ iabs_nonneg _)) fun d1 h1 => ?_
  have s1 := lb_le h1 hs
  have s2 := le_ub h1 hs
  obtain ⟨f2, f3, f4⟩ := abs_fwd s1 s2
  rw [hsat] at f2 f3 f4
  refine Ok.bind (setUb_ok h1 hr f2) fun d2 h2 => Ok.bind ?_ fun d3 h3 => ?_
  · exact Ok.ite (fun c => setLb_ok h2 hr (f3 c)) fun _ =>
      Ok.ite (fun c => setLb_ok h2 hr (f4 c)) fun _ => Ok.some h2
  obtain ⟨b1, b2, b3, b4⟩ := abs_bwd s1 s2 (hsat ▸ lb_le h3 hr) (hsat ▸ le_ub h3 hr)
  refine Ok.bind (setLb_ok h3 hs b1) fun d4 h4 => Ok.bind (setUb_ok h4 hs b2) fun d5 h5 => ?_
  exact Ok.ite (fun c => setUb_ok h5 hs (b3 c)) fun _ =>
    Ok.ite (fun c => setLb_ok h5 hs (b4 c)) fun _ => Ok.some h5

theorem ite_gt_eq_max (x m : Int) : (if x > m then x else m) = max m x := by omega

/-- `R` stands for the value of the right-hand side -/
theorem maxLoop1_ok {a : List Int} {R : Int} (rhsUb : Int) (hr : R ≤ rhsUb) (rest : List View)
    (hw : ∀ x ∈ rest, x.var < a.length) (hle : ∀ x ∈ rest, x.eval a ≤ R) (mLb mUb : Int) (hm : mLb ≤ R)
    (d : Doms) (h : inDoms d a = true) :
    ∃ mLb' mUb' d', maxLoop1 rhsUb rest mLb mUb d = some (mLb', mUb', d') ∧ inDoms d' a = true ∧
      mLb' ≤ R ∧ mUb ≤ mUb' ∧ ∀ x ∈ rest, x.eval a ≤ mUb' := by
  induction rest generalizing mLb mUb d with
  | nil => exact ⟨mLb, mUb, d, rfl, h, hm, Int.le_refl _, fun _ hx => by cases hx⟩
  | cons x rest ih =>
    have hxw := hw x (by simp)
    have hx := hle x (by simp)
    obtain ⟨d1, e1, h1, _⟩ := setUb_ok h hxw (Int.le_trans hx hr)
    simp only [maxLoop1, e1, Option.bind_some, ite_gt_eq_max]
    obtain ⟨mLb', mUb', d', e, h', g1, g2, g3⟩ :=
      ih (fun y hy => hw y (by simp [hy])) (fun y hy => hle y (by simp [hy]))
        (max mLb (lb d1 x)) (max mUb (ub d1 x)) (Int.max_le.2 ⟨hm, Int.le_trans (lb_le h1 hxw) hx⟩) d1 h1
    exact ⟨mLb', mUb', d', e, h', g1, Int.le_trans (Int.le_max_left ..) g2, fun y hy => by
      cases hy with
      | head => exact Int.le_trans (le_ub h1 hxw) (Int.le_trans (Int.le_max_right ..) g2)
      | tail _ hy' => exact g3 y hy'⟩

theorem maxPass_ok {a : List Int} (xs : List View) (r : View) (hw : ∀ x ∈ xs, x.var < a.length)
    (hr : r.var < a.length) (hall : ∀ x ∈ xs, x.eval a ≤ r.eval a) (hany : ∃ x ∈ xs, x.eval a = r.eval a)
    (d : Doms) (h : inDoms d a = true) : Ok a.length a (maxPass xs r d) := by
  unfold maxPass
  cases xs with
  | nil => exact Ok.some h
  | cons x0 xs' =>
    dsimp only
    have hx0 := hw x0 (by simp)
    obtain ⟨mLb, mUb, d1, e1, h1, g1, _, g3⟩ :=
      maxLoop1_ok (ub d r) (le_ub h hr) (x0 :: xs') hw hall (lb d x0) (ub d x0)
        (Int.le_trans (lb_le h hx0) (hall x0 (by simp))) d h
    rw [e1]
    obtain ⟨xj, hxj, hxje⟩ := hany
    refine Ok.bind (setLb_ok h1 hr g1) fun d2 h2 => Ok.bind ?_ fun d3 h3 => ?_
    · exact Ok.ite (fun _ => setUb_ok h2 hr (hxje ▸ g3 xj hxj)) fun _ => Ok.some h2
    -- `xj` reaches the value of `r`, so it is among the supports; a single support is `xj`
    have hmem : xj ∈ maxSupport d3 (x0 :: xs') (lb d3 r) :=
      List.mem_filter.2 ⟨hxj, decide_eq_true (Int.le_trans (lb_le h3 hr) (hxje ▸ le_ub h3 (hw xj hxj)))⟩
    split
    · rename_i x hsup
      rw [hsup] at hmem
      obtain rfl : xj = x := by simpa using hmem
      exact Ok.ite (fun _ => setLb_ok h3 (hw xj hxj) (hxje ▸ lb_le h3 hr)) fun _ => Ok.some h3
    · exact Ok.some h3

theorem clausePass_ok {a : List Int} (ls : List Atom) (hw : ∀ p ∈ ls, p.var < a.length)
    (hsat : ∃ p ∈ ls, p.holds a = true) (d : Doms) (h : inDoms d a = true) :
    Ok a.length a (clausePass ls d) := by
  obtain ⟨q, hq, hqa⟩ := hsat
  -- `q` is live; `!false` is `true` by computation
  obtain ⟨p, rest, e, hp⟩ :=
    unit_rule (live := fun p => !atomFalse d p) (P := fun p => p.var < a.length ∧ p.holds a = true) hq
      (congrArg not (AtomRup.atomFalse_eq_false h (inDoms_length h ▸ hw q hq) hqa)) ⟨hw q hq, hqa⟩
  unfold clausePass
  rw [e]
  exact Ok.ite (fun _ => Ok.some h) fun _ => Ok.ite (fun hall => postAtom_ok h (hp hall).1 (hp hall).2) fun _ => Ok.some h

theorem mem_indexedFrom (k : Int) (xs : List View) (k' : Int) (x : View) :
    (k', x) ∈ indexedFrom k xs ↔ ∃ j : Nat, xs[j]? = some x ∧ k' = k + j := by
  induction xs generalizing k with
  | nil => simp [indexedFrom]
  | cons y ys ih =>
    show (k', x) ∈ (k, y) :: indexedFrom (k + 1) ys ↔ _
    rw [List.mem_cons, ih, Prod.mk.injEq]
    constructor
    · rintro (⟨rfl, rfl⟩ | ⟨j, hj, rfl⟩)
      · exact ⟨0, rfl, (Int.add_zero _).symm⟩
      · exact ⟨j + 1, hj, by omega⟩
    · rintro ⟨j, hj, rfl⟩
      cases j with
      | zero => exact .inl ⟨Int.add_zero _, (Option.some.inj hj).symm⟩
      | succ j => exact .inr ⟨j, hj, by omega⟩

theorem mem_indexed {xs : List View} {k : Int} {x : View} :
    (k, x) ∈ indexed xs ↔ ∃ j : Nat, xs[j]? = some x ∧ k = j := by
  simp only [indexed, mem_indexedFrom, Int.zero_add]

/-- `i` is the value of the index, `x` the element it selects -/
theorem elementPass_ok {a : List Int} (iv : View) (xs : List View) (r : View) (hiv : iv.var < a.length)
    (hw : ∀ x ∈ xs, x.var < a.length) (hr : r.var < a.length) (x : View) (i : Nat) (hi : iv.eval a = i)
    (hx : xs[i]? = some x) (hxr : x.eval a = r.eval a)
    (d : Doms) (h : inDoms d a = true) : Ok a.length a (elementPass iv xs r d) := by
  unfold elementPass
  have hxw := hw x (List.mem_of_getElem? hx)
  have hlt := (List.getElem?_eq_some_iff.1 hx).1
  refine Ok.bind (setLb_ok h hiv (hi ▸ Int.natCast_nonneg i)) fun d1 h1 =>
    Ok.bind (setUb_ok h1 hiv (hi ▸ Int.le_sub_one_of_lt (Int.ofNat_lt.2 hlt))) fun d2 h2 => ?_
  have hsup : (iv.eval a, x) ∈ (indexed xs).filter (fun p => contains d2 iv p.1) :=
    List.mem_filter.2 ⟨mem_indexed.2 ⟨i, hx, hi⟩, List.contains_iff_mem.2 (eval_mem_vals h2 hiv)⟩
  -- `x` is among the supports. `m1`: fold of `min` over their `lb d2 ·` `≤ lb d2 x ≤ x.eval a`; `m2`: likewise, `ub`, `max`
  have m1 := Int.le_trans ((foldl_min_spec _ 2147483647).2 _ (List.mem_cons_of_mem _ (List.mem_map_of_mem (f := fun p => lb d2 p.2) hsup)))
    (lb_le h2 hxw)
  have m2 := Int.le_trans (le_ub h2 hxw)
    ((foldl_max_spec _ (-2147483648)).2 _ (List.mem_cons_of_mem _ (List.mem_map_of_mem (f := fun p => ub d2 p.2) hsup)) :)
  rw [hxr] at m1 m2
  refine Ok.bind (setLb_ok h2 hr m1) fun d3 h3 => Ok.bind (setUb_ok h3 hr m2) fun d4 h4 =>
    Ok.bind ?_ fun d5 h5 => Ok.ite (fun hfix => ?_) fun _ => Ok.some h5
  · -- an index goes only when the bounds of its element and of `r` are disjoint; those of `x` and `r` share a value
    refine Ok.loop (fun _ => rfl) (fun _ _ _ => rfl) (indexed xs) (fun p hp d h =>
      Ok.ite (fun hc => remove_ok h hiv fun heq => ?_) fun _ => Ok.some h) d4 h4
    simp only [Bool.and_eq_true, Bool.or_eq_true, decide_eq_true_eq] at hc
    obtain ⟨j, hj, hk⟩ := mem_indexed.1 hp
    obtain rfl : j = i := Int.ofNat_inj.1 (hk.symm.trans (heq.symm.trans hi))  -- `j = p.1 = iv.eval a = i`
    obtain rfl : x = p.2 := Option.some.inj (hx.symm.trans hj)
    exact hc.2.elim (Int.not_lt.2 (Int.le_trans (lb_le h4 hr) (hxr ▸ le_ub h4 hxw)))
      (Int.not_lt.2 (Int.le_trans (lb_le h4 hxw) (hxr ▸ le_ub h4 hr)))
  · rw [← eq_of_fixed h5 hiv hfix, hi, Int.toNat_natCast, hx]
    exact Ok.bind (setLb_ok h5 hxw (hxr ▸ lb_le h5 hr)) fun d6 h6 => setUb_ok h6 hxw (hxr ▸ le_ub h5 hr)

end Pumpkin.Pg
