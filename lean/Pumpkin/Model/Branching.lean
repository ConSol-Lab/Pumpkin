/-
Models of the built-in value selectors (`branching/value_selection/*.rs`).

A domain is the sorted list of its values (`vs`), `lb = head`, `ub = last`. Each selector is a
function from the domain (and, for the randomised ones, from the random draw, which is an
argument) to the decision it proposes on variable `x`. The obligation of C18 for value selection:
on every domain with at least two values the decision is `Undecided`.
-/
import Pumpkin.Spec.Basic

namespace Pumpkin.Branching

def Sorted : List Int → Prop
  | [] => True
  | [_] => True
  | a :: b :: rest => a < b ∧ Sorted (b :: rest)

def lbOf (vs : List Int) : Int := vs.headD 0
def ubOf (vs : List Int) : Int := vs.getLastD 0

def Undecided (vs : List Int) (p : Atom) : Prop :=
  (∃ v ∈ vs, p.holdsVal v = true) ∧ (∃ v ∈ vs, p.holdsVal v = false)

theorem sorted_tail {a : Int} {l : List Int} (h : Sorted (a :: l)) : Sorted l := by
  cases l with
  | nil => trivial
  | cons b rest => exact h.2

theorem sorted_head_lt {a : Int} {l : List Int} (h : Sorted (a :: l)) : ∀ v ∈ l, a < v := by
  induction l generalizing a with
  | nil => intro v hv; cases hv
  | cons b rest ih =>
    intro v hv
    cases hv with
    | head => exact h.1
    | tail _ hv' => exact Int.lt_trans h.1 (ih h.2 v hv')

theorem lb_mem {vs : List Int} (h : vs ≠ []) : lbOf vs ∈ vs := by
  cases vs with
  | nil => exact absurd rfl h
  | cons a l => exact List.mem_cons_self ..

theorem ub_mem {vs : List Int} (h : vs ≠ []) : ubOf vs ∈ vs := by
  cases vs with
  | nil => exact absurd rfl h
  | cons a l => rw [ubOf, List.getLastD_cons]; exact List.getLastD_mem_cons

theorem lb_le {vs : List Int} (hs : Sorted vs) : ∀ v ∈ vs, lbOf vs ≤ v := by
  cases vs with
  | nil => intro v hv; cases hv
  | cons a l =>
    intro v hv
    cases hv with
    | head => exact Int.le_refl _
    | tail _ h => exact Int.le_of_lt (sorted_head_lt hs v h)

theorem le_ub {vs : List Int} (hs : Sorted vs) : ∀ v ∈ vs, v ≤ ubOf vs := by
  induction vs with
  | nil => nofun
  | cons a l ih =>
    cases l with
    | nil => intro v hv; rw [List.mem_singleton.1 hv]; exact Int.le_refl _
    | cons b rest =>
      have hb : b ≤ ubOf (b :: rest) := ih hs.2 b (List.mem_cons_self ..)
      intro v hv
      rcases List.mem_cons.1 hv with rfl | hv
      · exact Int.le_of_lt (Int.lt_of_lt_of_le hs.1 hb)
      · exact ih hs.2 v hv

theorem lb_lt_ub {vs : List Int} (hs : Sorted vs) (h2 : 2 ≤ vs.length) : lbOf vs < ubOf vs :=
  match vs, hs, h2 with  -- `h2` rules out `[]` and `[_]`
  | _ :: b :: _, hs, _ => Int.lt_of_lt_of_le hs.1 (le_ub hs.2 b (List.mem_cons_self ..))

def inDomainMin (x : Nat) (vs : List Int) : Atom := Atom.le x (lbOf vs)
def inDomainMax (x : Nat) (vs : List Int) : Atom := Atom.ge x (ubOf vs)
def outDomainMin (x : Nat) (vs : List Int) : Atom := Atom.ge x (lbOf vs + 1)
def outDomainMax (x : Nat) (vs : List Int) : Atom := Atom.le x (ubOf vs - 1)
/-- `lb + (size as f64 / 2.0).floor() as i32`, where `get_size_of_domain` is `ub - lb` -/
def splitPoint (vs : List Int) : Int := lbOf vs + (ubOf vs - lbOf vs) / 2
def inDomainSplit (x : Nat) (vs : List Int) : Atom := Atom.le x (splitPoint vs)
/-- `.ceil()` where `splitPoint` has `.floor()` -/
def reverseInDomainSplit (x : Nat) (vs : List Int) : Atom :=
  Atom.ge x (lbOf vs + (ubOf vs - lbOf vs + 1) / 2)
/-- `bound.max(lb + 1)`: without it a two-value domain gets `[x >= lb]` -/
def inDomainSplitRandom (x : Nat) (vs : List Int) (coin : Bool) : Atom :=
  if coin then Atom.ge x (max (splitPoint vs) (lbOf vs + 1)) else Atom.le x (splitPoint vs)
/-- `r` is the random draw from `lb..=ub` -/
def randomSplitter (x : Nat) (vs : List Int) (r : Int) (coin : Bool) : Atom :=
  if r = lbOf vs then Atom.le x r
  else if r = ubOf vs then Atom.ge x r
  else if coin then Atom.ge x r else Atom.le x r

/-- first value strictly between the bounds that is not in the domain -/
def firstHole (vs : List Int) : Option Int :=
  ((List.range (ubOf vs - lbOf vs - 1).toNat).map (fun (i : Nat) => lbOf vs + 1 + (i : Int))).find?
    (fun b => !vs.contains b)

def inDomainInterval (x : Nat) (vs : List Int) : Atom :=
  match firstHole vs with
  | some h => Atom.le x (h - 1)
  | none => inDomainSplit x vs

def inDomainMedian (x : Nat) (vs : List Int) : Atom := Atom.eq x (vs.getD (vs.length / 2) 0)
def outDomainMedian (x : Nat) (vs : List Int) : Atom := Atom.ne x (vs.getD (vs.length / 2) 0)
def inDomainRandom (x : Nat) (vs : List Int) (i : Nat) : Atom := Atom.eq x (vs.getD i 0)
def outDomainRandom (x : Nat) (vs : List Int) (i : Nat) : Atom := Atom.ne x (vs.getD i 0)

/-- `InDomainMiddle`: search outwards from the split point for a value of the domain -/
def middleSearch (vs : List Int) (bound : Int) : Nat → Nat → Int
  | 0, _ => bound
  | fuel + 1, off =>
    if vs.contains (bound - off) then bound - off
    else if vs.contains (bound + off) then bound + off
    else middleSearch vs bound fuel (off + 1)

def inDomainMiddle (x : Nat) (vs : List Int) : Atom :=
  Atom.eq x (middleSearch vs (splitPoint vs) ((ubOf vs - lbOf vs).toNat + 1) 0)

/-! On a domain with two values or more the bounds are distinct members (`ends`). So a bound atom whose
threshold separates them, and an (in)equality with any member, are undecided: every selector is an
instance, its theorem only places the threshold. -/

section
variable {vs : List Int}

theorem ends (hs : Sorted vs) (h2 : 2 ≤ vs.length) : lbOf vs ∈ vs ∧ ubOf vs ∈ vs ∧ lbOf vs < ubOf vs :=
  have hne : vs ≠ [] := by intro h; simp [h] at h2
  ⟨lb_mem hne, ub_mem hne, lb_lt_ub hs h2⟩

theorem le_undecided (x : Nat) {k : Int} (hs : Sorted vs) (h2 : 2 ≤ vs.length)
    (hk : lbOf vs < ubOf vs → lbOf vs ≤ k ∧ k < ubOf vs) : Undecided vs (Atom.le x k) := by
  obtain ⟨hl, hu, hlt⟩ := ends hs h2
  exact ⟨⟨_, hl, decide_eq_true (hk hlt).1⟩, ⟨_, hu, decide_eq_false (Int.not_le.2 (hk hlt).2)⟩⟩

theorem ge_undecided (x : Nat) {k : Int} (hs : Sorted vs) (h2 : 2 ≤ vs.length)
    (hk : lbOf vs < ubOf vs → lbOf vs < k ∧ k ≤ ubOf vs) : Undecided vs (Atom.ge x k) := by
  obtain ⟨hl, hu, hlt⟩ := ends hs h2
  exact ⟨⟨_, hu, decide_eq_true (hk hlt).2⟩, ⟨_, hl, decide_eq_false (Int.not_le.2 (hk hlt).1)⟩⟩

/-- the witness against `w` is whichever bound differs from it -/
theorem eq_member_undecided (x : Nat) (w : Int) (hw : w ∈ vs) (hs : Sorted vs) (h2 : 2 ≤ vs.length) :
    Undecided vs (Atom.eq x w) ∧ Undecided vs (Atom.ne x w) := by
  obtain ⟨hl, hu, hlt⟩ := ends hs h2
  obtain ⟨v, hv, hvw⟩ : ∃ v ∈ vs, v ≠ w := by
    by_cases h : w = lbOf vs
    · exact ⟨_, hu, h ▸ Int.ne_of_gt hlt⟩  -- `ub ≠ lb = w`
    · exact ⟨_, hl, fun e => h e.symm⟩
  exact ⟨⟨⟨w, hw, decide_eq_true rfl⟩, ⟨v, hv, decide_eq_false hvw⟩⟩,
    ⟨⟨v, hv, decide_eq_true hvw⟩, ⟨w, hw, decide_eq_false (not_not_intro rfl)⟩⟩⟩

theorem inDomainMin_undecided (x : Nat) (hs : Sorted vs) (h2 : 2 ≤ vs.length) :
    Undecided vs (inDomainMin x vs) :=
  le_undecided x hs h2 fun h => ⟨Int.le_refl _, h⟩

theorem inDomainMax_undecided (x : Nat) (hs : Sorted vs) (h2 : 2 ≤ vs.length) :
    Undecided vs (inDomainMax x vs) :=
  ge_undecided x hs h2 fun h => ⟨h, Int.le_refl _⟩

theorem outDomainMin_undecided (x : Nat) (hs : Sorted vs) (h2 : 2 ≤ vs.length) :
    Undecided vs (outDomainMin x vs) :=
  ge_undecided x hs h2 fun h => ⟨Int.lt_succ _, h⟩

theorem outDomainMax_undecided (x : Nat) (hs : Sorted vs) (h2 : 2 ≤ vs.length) :
    Undecided vs (outDomainMax x vs) :=
  le_undecided x hs h2 fun h => ⟨Int.le_sub_one_of_lt h, Int.lt_of_le_sub_one (Int.le_refl _)⟩

theorem splitPoint_bounds (h : lbOf vs < ubOf vs) : lbOf vs ≤ splitPoint vs ∧ splitPoint vs < ubOf vs := by
  simp only [splitPoint]
  omega

theorem inDomainSplit_undecided (x : Nat) (hs : Sorted vs) (h2 : 2 ≤ vs.length) :
    Undecided vs (inDomainSplit x vs) :=
  le_undecided x hs h2 splitPoint_bounds

theorem reverseInDomainSplit_undecided (x : Nat) (hs : Sorted vs) (h2 : 2 ≤ vs.length) :
    Undecided vs (reverseInDomainSplit x vs) :=
  ge_undecided x hs h2 fun _ => by omega

theorem inDomainSplitRandom_undecided (x : Nat) (coin : Bool) (hs : Sorted vs) (h2 : 2 ≤ vs.length) :
    Undecided vs (inDomainSplitRandom x vs coin) := by
  cases coin
  · exact le_undecided x hs h2 splitPoint_bounds
  · exact ge_undecided x hs h2 fun h => ⟨Int.lt_of_lt_of_le (Int.lt_succ _) (Int.le_max_right ..),
      Int.max_le.2 ⟨Int.le_of_lt (splitPoint_bounds h).2, h⟩⟩

/-- with `ub = lb + 1` the split point is `lb`, and every value satisfies `[x >= lb]` -/
theorem inDomainSplitRandom_unfixed_decided (x : Nat) (lb : Int) :
    ¬ Undecided [lb, lb + 1] (Atom.ge x (splitPoint [lb, lb + 1])) := by
  have hsp : splitPoint [lb, lb + 1] = lb :=
    -- what is left after the rewriting is `lb + 1 / 2 = lb`, and `1 / 2` evaluates to `0`
    show lb + (lb + 1 - lb) / 2 = lb by rw [Int.add_comm lb 1, Int.add_sub_cancel]; exact Int.add_zero lb
  rintro ⟨-, v, hv, hf⟩
  rw [hsp, Atom.holdsVal, decide_eq_false_iff_not, Int.not_le] at hf
  simp only [List.mem_cons, List.not_mem_nil, or_false] at hv
  omega

theorem randomSplitter_undecided (x : Nat) (r : Int) (coin : Bool) (hs : Sorted vs)
    (h2 : 2 ≤ vs.length) (hr : lbOf vs ≤ r ∧ r ≤ ubOf vs) :
    Undecided vs (randomSplitter x vs r coin) := by
  have hle : (lbOf vs < ubOf vs → r ≠ ubOf vs) → Undecided vs (.le x r) :=
    fun h => le_undecided x hs h2 fun hlt => ⟨hr.1, Int.lt_iff_le_and_ne.2 ⟨hr.2, h hlt⟩⟩
  have hge : r ≠ lbOf vs → Undecided vs (.ge x r) :=
    fun h => ge_undecided x hs h2 fun _ => ⟨Int.lt_iff_le_and_ne.2 ⟨hr.1, Ne.symm h⟩, hr.2⟩
  unfold randomSplitter
  by_cases h1 : r = lbOf vs
  · rw [if_pos h1]; exact hle fun hlt => h1 ▸ Int.ne_of_lt hlt
  rw [if_neg h1]
  by_cases h3 : r = ubOf vs
  · rw [if_pos h3]; exact hge h1
  rw [if_neg h3]
  cases coin
  · exact hle fun _ => h3
  · exact hge h1

theorem firstHole_spec (h : firstHole vs = some hole) : lbOf vs < hole ∧ hole < ubOf vs := by
  simp only [firstHole] at h
  have := List.mem_of_find?_eq_some h
  simp only [List.mem_map, List.mem_range] at this
  obtain ⟨i, hi, rfl⟩ := this
  omega

theorem inDomainInterval_undecided (x : Nat) (hs : Sorted vs) (h2 : 2 ≤ vs.length) :
    Undecided vs (inDomainInterval x vs) := by
  simp only [inDomainInterval]
  split
  · rename_i hole hh
    exact le_undecided x hs h2 fun _ => by have := firstHole_spec hh; omega
  · exact inDomainSplit_undecided x hs h2

theorem getD_mem (i : Nat) (hi : i < vs.length) : vs.getD i 0 ∈ vs := by
  rw [List.getD_eq_getElem?_getD, List.getElem?_eq_getElem hi]
  exact List.getElem_mem hi

theorem median_mem (h2 : 2 ≤ vs.length) : vs.getD (vs.length / 2) 0 ∈ vs :=
  getD_mem _ (Nat.div_lt_self (Nat.lt_of_lt_of_le Nat.two_pos h2) Nat.one_lt_two)

theorem inDomainMedian_undecided (x : Nat) (hs : Sorted vs) (h2 : 2 ≤ vs.length) :
    Undecided vs (inDomainMedian x vs) :=
  (eq_member_undecided x _ (median_mem h2) hs h2).1

theorem outDomainMedian_undecided (x : Nat) (hs : Sorted vs) (h2 : 2 ≤ vs.length) :
    Undecided vs (outDomainMedian x vs) :=
  (eq_member_undecided x _ (median_mem h2) hs h2).2

theorem inDomainRandom_undecided (x i : Nat) (hi : i < vs.length) (hs : Sorted vs) (h2 : 2 ≤ vs.length) :
    Undecided vs (inDomainRandom x vs i) :=
  (eq_member_undecided x _ (getD_mem i hi) hs h2).1

theorem outDomainRandom_undecided (x i : Nat) (hi : i < vs.length) (hs : Sorted vs) (h2 : 2 ≤ vs.length) :
    Undecided vs (outDomainRandom x vs i) :=
  (eq_member_undecided x _ (getD_mem i hi) hs h2).2

theorem middleSearch_mem (bound : Int) (fuel off : Nat) {v : Int} (hv : v ∈ vs)
    (h1 : v ≤ bound - off) (h2 : bound - v < off + fuel) : middleSearch vs bound fuel off ∈ vs := by
  induction fuel generalizing off with
  | zero => omega
  | succ fuel ih =>
    rw [middleSearch]
    by_cases hc1 : vs.contains (bound - off) = true
    · rw [if_pos hc1]; exact List.contains_iff_mem.1 hc1
    rw [if_neg hc1]
    by_cases hc2 : vs.contains (bound + off) = true
    · rw [if_pos hc2]; exact List.contains_iff_mem.1 hc2
    rw [if_neg hc2]
    have : v ≠ bound - off := fun e => hc1 (List.contains_iff_mem.2 (e ▸ hv))
    exact ih (off + 1) (by omega) (by omega)

theorem inDomainMiddle_undecided (x : Nat) (hs : Sorted vs) (h2 : 2 ≤ vs.length) :
    Undecided vs (inDomainMiddle x vs) := by
  obtain ⟨hl, -, hlt⟩ := ends hs h2
  have hb := splitPoint_bounds hlt
  -- the lower bound is found at the latest
  exact (eq_member_undecided x _ (middleSearch_mem _ _ 0 hl (by omega) (by omega)) hs h2).1

end

/-- All decisions a selector can propose on a domain (over every outcome of its random draws);
deterministic selectors have a singleton support. The correspondence check requires the decision
the real selector made to be a member. -/
def support (name : String) (x : Nat) (vs : List Int) : List Atom :=
  let idxs := List.range vs.length
  match name with
  | "InDomainMin" => [inDomainMin x vs]
  | "InDomainMax" => [inDomainMax x vs]
  | "OutDomainMin" => [outDomainMin x vs]
  | "OutDomainMax" => [outDomainMax x vs]
  | "InDomainSplit" => [inDomainSplit x vs]
  | "ReverseInDomainSplit" => [reverseInDomainSplit x vs]
  | "InDomainSplitRandom" => [inDomainSplitRandom x vs true, inDomainSplitRandom x vs false]
  | "InDomainInterval" => [inDomainInterval x vs]
  | "InDomainMedian" => [inDomainMedian x vs]
  | "OutDomainMedian" => [outDomainMedian x vs]
  | "InDomainMiddle" => [inDomainMiddle x vs]
  | "InDomainRandom" => idxs.map (inDomainRandom x vs)
  | "OutDomainRandom" => idxs.map (outDomainRandom x vs)
  | "RandomSplitter" =>
    ((List.range ((ubOf vs - lbOf vs).toNat + 1)).map (fun (i : Nat) => lbOf vs + (i : Int))).flatMap
      (fun r => [randomSplitter x vs r true, randomSplitter x vs r false])
  | _ => []

end Pumpkin.Branching
