/-
Model of `engine/predicates/predicate.rs`:
`Predicate::is_mutually_exclusive_with` and `impl Not for Predicate`
(the latter is `Atom.neg` in Spec/Basic.lean).
-/
import Pumpkin.Spec.Basic

namespace Pumpkin

/-- the `match (self, other)`, arm by arm -/
def Atom.mutex : Atom → Atom → Bool
  | .ge _ _, .ge _ _ | .ge _ _, .ne _ _ | .le _ _, .le _ _ | .le _ _, .ne _ _
  | .ne _ _, .ge _ _ | .ne _ _, .le _ _ | .ne _ _, .ne _ _ => false
  | .ge x lb, .le y ub | .le y ub, .ge x lb => x == y && decide (lb > ub)
  | .ge x lb, .eq y v | .eq y v, .ge x lb => x == y && decide (lb > v)
  | .le x ub, .eq y v | .eq y v, .le x ub => x == y && decide (ub < v)
  | .ne x n, .eq y v | .eq y v, .ne x n => x == y && decide (v = n)
  | .eq x v, .eq y w => x == y && decide (v ≠ w)

namespace Atom

def Excl (p q : Atom) : Prop := ∀ z : Int, ¬ (p.holdsVal z = true ∧ q.holdsVal z = true)

theorem excl_comm {p q : Atom} : p.Excl q ↔ q.Excl p :=
  ⟨fun h z hz => h z hz.symm, fun h z hz => h z hz.symm⟩

/-- an equality excludes exactly the atoms that are false at its value: the arms with an `eq` -/
theorem excl_eq {p : Atom} {y : Nat} {v : Int} {c : Prop} (h : p.holdsVal v = false ↔ c) :
    c ↔ p.Excl (.eq y v) :=
  -- `hz.2` unfolds to `decide (z = v) = true`; after the rewriting `hz.1` is `false = true`
  ⟨fun hc z hz => by rw [of_decide_eq_true hz.2, h.2 hc] at hz; exact Bool.noConfusion hz.1,
   fun he => h.1 (Bool.eq_false_iff.2 fun hv => he v ⟨hv, decide_eq_true rfl⟩)⟩

theorem excl_eq' {p : Atom} {y : Nat} {v : Int} {c : Prop} (h : p.holdsVal v = false ↔ c) :
    c ↔ (eq y v).Excl p :=
  (excl_eq h).trans excl_comm

/-- `ge` and `ne` hold above their constant, `le` and `ne` below: two atoms of the same kind have a
common value, which is why their arms answer `false` -/
theorem arm_false_above {p q : Atom} {a b : Int} (hp : ∀ z, a < z → p.holdsVal z = true)
    (hq : ∀ z, b < z → q.holdsVal z = true) : false = true ↔ p.var = q.var ∧ p.Excl q :=
  -- at `z = max a b + 1`
  ⟨Bool.noConfusion, fun h => (h.2 _ ⟨hp _ (Int.lt_add_one_of_le (Int.le_max_left a b)),
    hq _ (Int.lt_add_one_of_le (Int.le_max_right a b))⟩).elim⟩

theorem arm_false_below {p q : Atom} {a b : Int} (hp : ∀ z, z < a → p.holdsVal z = true)
    (hq : ∀ z, z < b → q.holdsVal z = true) : false = true ↔ p.var = q.var ∧ p.Excl q :=
  -- at `z = min a b - 1`
  ⟨Bool.noConfusion, fun h => (h.2 _ ⟨hp _ (Int.sub_one_lt_of_le (Int.min_le_left a b)),
    hq _ (Int.sub_one_lt_of_le (Int.min_le_right a b))⟩).elim⟩

theorem ge_above (x : Nat) (a z : Int) (h : a < z) : (ge x a).holdsVal z = true := decide_eq_true (Int.le_of_lt h)
theorem ne_above (x : Nat) (a z : Int) (h : a < z) : (ne x a).holdsVal z = true := decide_eq_true (Int.ne_of_gt h)
theorem le_below (x : Nat) (a z : Int) (h : z < a) : (le x a).holdsVal z = true := decide_eq_true (Int.le_of_lt h)
theorem ne_below (x : Nat) (a z : Int) (h : z < a) : (ne x a).holdsVal z = true := decide_eq_true (Int.ne_of_lt h)

theorem excl_ge_le (x y : Nat) (a b : Int) : a > b ↔ (ge x a).Excl (le y b) :=
  -- `z ≤ b < a ≤ z`
  ⟨fun h z hz => Int.lt_irrefl z (Int.lt_of_le_of_lt (of_decide_eq_true hz.2) (Int.lt_of_lt_of_le h (of_decide_eq_true hz.1))),
   fun h => Int.not_le.1 fun hab => h a ⟨decide_eq_true (Int.le_refl _), decide_eq_true hab⟩⟩

/-- the or-patterns of `mutex` bind `x` and `y` in either order -/
theorem arm_iff {x y : Nat} {c e : Prop} [Decidable c] (h : c ↔ e) : (x == y && decide c) = true ↔ x = y ∧ e := by
  rw [Bool.and_eq_true, beq_iff_eq, decide_eq_true_eq, h]

theorem arm_iff' {x y : Nat} {c e : Prop} [Decidable c] (h : c ↔ e) : (x == y && decide c) = true ↔ y = x ∧ e := by
  rw [arm_iff h, eq_comm]

end Atom

open Atom in
/-- The code's test is exact. -/
theorem Atom.mutex_iff (p q : Atom) :
    p.mutex q = true ↔ p.var = q.var ∧ ∀ z : Int, ¬ (p.holdsVal z = true ∧ q.holdsVal z = true) :=
  match p, q with
  | .ge _ _, .ge _ _ => arm_false_above (ge_above _ _) (ge_above _ _)
  | .ge _ _, .ne _ _ => arm_false_above (ge_above _ _) (ne_above _ _)
  | .ne _ _, .ge _ _ => arm_false_above (ne_above _ _) (ge_above _ _)
  | .ne _ _, .ne _ _ => arm_false_above (ne_above _ _) (ne_above _ _)
  | .le _ _, .le _ _ => arm_false_below (le_below _ _) (le_below _ _)
  | .le _ _, .ne _ _ => arm_false_below (le_below _ _) (ne_below _ _)
  | .ne _ _, .le _ _ => arm_false_below (ne_below _ _) (le_below _ _)
  | .ge _ _, .le _ _ => arm_iff (excl_ge_le ..)
  | .le _ _, .ge _ _ => arm_iff' ((excl_ge_le ..).trans excl_comm)
  | .ge _ _, .eq _ _ => arm_iff (excl_eq (decide_eq_false_iff_not.trans Int.not_le))
  | .le _ _, .eq _ _ => arm_iff (excl_eq (decide_eq_false_iff_not.trans Int.not_le))
  | .ne _ _, .eq _ _ => arm_iff (excl_eq (decide_eq_false_iff_not.trans Decidable.not_not))
  | .eq _ _, .eq _ _ => arm_iff (excl_eq (decide_eq_false_iff_not.trans ne_comm))
  | .eq _ _, .ge _ _ => arm_iff' (excl_eq' (decide_eq_false_iff_not.trans Int.not_le))
  | .eq _ _, .le _ _ => arm_iff' (excl_eq' (decide_eq_false_iff_not.trans Int.not_le))
  | .eq _ _, .ne _ _ => arm_iff' (excl_eq' (decide_eq_false_iff_not.trans Decidable.not_not))

end Pumpkin
